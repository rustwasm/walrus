import Walrus.Props.C19

/-!
# C19, continued — the emit-time function map, for the code section `emitCode` actually writes

`C19.emitted_function_index_exact` assumes that the emitted functions have pairwise distinct ids.
Here that hypothesis is discharged for the model's emission: ids handed out by the parse are
`importedFuncs + position`, the size sort is a permutation, so the ids of the emitted functions are
distinct (`emitCode_ids_nodup`, Proofs/FuncSigs).
-/
namespace Walrus
namespace C19

/-- **for every parsed module, the index the emit-time map reports for the `j`-th emitted function
    is `importedFuncs + j`** — its position in the function index space of the output — with no
    assumption left on the ids -/
theorem emitted_function_index_exact_for_the_emitted_code (c : InCode) (pfs : List ParsedFunc) (oc : OutCode)
    (hp : parseCode c = some pfs) (he : emitCode c pfs = some oc) (j : Nat) (hj : j < oc.funcs.length) :
    assoc (oc.funcs.zipIdx.map (fun p => (p.1.id, c.importedFuncs + p.2))) (oc.funcs[j].id) =
      some (c.importedFuncs + j) :=
  emitted_function_index_exact c.importedFuncs oc.funcs (emitCode_ids_nodup c pfs oc hp he) j hj

/-- **every local function of the input is emitted exactly once**: the ids of the functions in the
    output's code section are a permutation of the ids the parse handed out, one per function of the
    input's code section — none dropped, none duplicated, whatever the size sort does -/
theorem every_local_function_is_emitted_exactly_once (c : InCode) (pfs : List ParsedFunc) (oc : OutCode)
    (hp : parseCode c = some pfs) (he : emitCode c pfs = some oc) :
    (oc.funcs.map (·.id)).Perm ((List.range c.funcs.length).map (c.importedFuncs + ·)) :=
  emitCode_ids_perm c pfs oc hp he

end C19
end Walrus
