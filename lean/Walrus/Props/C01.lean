import Walrus.Proofs.Sem
import Walrus.Proofs.Rename
import Walrus.Proofs.Bridge
import Walrus.Proofs.AgreeMaps
import Walrus.Proofs.CodeMaps

/-!
# C01 — parse → emit preserves execution behaviour

Model: an executable semantics of wasm modules (`Walrus/Sem.lean`, `Walrus/Run.lean`): structured
instructions, explicit value stack, store (globals, memories, tables, segments), a canonical
deterministic host, gas consumed by calls and loop back-edges only.  The observation of a run is
the instantiation outcome, the results or trap of every call of a script over the exports (state
carries over), the host-call trace and the exported state.

What walrus does to a body is `rename ∘ elide`: it drops `nop`s and everything that follows an
unconditional transfer in the same sequence (`SL.elide`), and renumbers entity operands.

* **Proved, for every module, state, call sequence and gas budget**: `elide` is unobservable
  (`elision_unobservable`, `elision_unobservable_calls`); so are the renumbering of functions (any
  permutation of the index space), of types (de-duplication, sorting), of the locals of each
  function (compaction: locals a body never names may disappear) and the rewriting of block types
  to another form of the same arity (`renumbering_unobservable_calls`, and for the whole observation
  `round_trip_unobservable`, which also covers the renumbered exports, start function, element items
  and `ref.func` constants).  The interpreter names functions and locals by *uid*; the renumbering
  changes the index ↦ uid tables and the operands, and nothing else.
* **Proved, for every body**: what `emit ∘ parse` writes for it (`outL`, which
  `C03.body_round_trip_in_source_terms` proves to be the output of the modelled parse and emit), read
  back by the interpreter, *is* `ren ρ (elide t)` for `t` the interpreter's reading of the source
  (`written_body_is_ren_elide_of_source`), and therefore executes as the source body does
  (`written_body_behaves_as_source`) — provided the parse-time and emit-time maps take the surviving
  operators and block types where `ρ` takes them (`agreeL`, decidable).  For operators of the
  decoder's shape and the maps of an emission without a pass, the renumbering those maps induce
  meets the proviso (`written_body_is_ren_elide_by_the_emission_maps`).
* Not theorems: that the observation of a module does not depend on how uids are assigned (a decoded
  module gets position = uid; `round_trip_unobservable` speaks of the output re-indexed to the
  input's uids), and that the whole of walrus's output (all sections) *is* `ren (elide input)`.
  Both are checked on every case: the driver request `elidetie` compares the bodies of walrus's real
  output with `SL.elide` of the real input's bodies (modulo operand renumbering and the normal form
  of block types); `rentie` evaluates `agreeL`, the shape hypothesis and the hypotheses of the
  renumbering theorem (`EnvRen`, on the finitely many indices in range) on the real input/output
  pair with the environment and maps of the modelled emission, and runs the output under both uid
  assignments; the side-by-side execution oracle compares input and output end to end.
  (`round_trip_preserves_behaviour_partial` is, its name notwithstanding, the complete body-level
  statement about elision.)
-/
namespace Walrus
namespace C01
open Walrus.Sem

/-- calls into the module whose bodies were elided return, trap, trace and leave the store exactly
    as calls into the original module -/
theorem elision_unobservable_calls (E : Env) (gas : Nat) (u : Nat) (args : List V) (st : Store) :
    invoke E.elide gas u args st = invoke E gas u args st := by
  rw [invoke_elide]

/-- the observation of any script — instantiation (segments, start function), every call with
    carried-over state, host trace, exported state — is unchanged by elision -/
theorem elision_unobservable (m : ModuleM) (E : Env) (gas seed rounds : Nat) :
    observeWith m E.elide.resolve E.elide.usigs (invoke E.elide gas) seed rounds =
    observeWith m E.resolve E.usigs (invoke E gas) seed rounds :=
  observe_elide m E gas seed rounds

/-- **renumbering is unobservable**: if `E'` is `E` with its function, type and local indices and
    its block types renumbered (`EnvRen`), then every call, with any arguments, in any store, with
    any gas, has the same outcome -/
theorem renumbering_unobservable_calls {fρ yρ : Nat → Nat} {btρ : BT → BT} {xρ : Nat → Nat → Nat}
    {E' E : Env} (h : EnvRen fρ yρ btρ xρ E' E) (gas : Nat) (u : Nat) (args : List V) (st : Store) :
    invoke E' gas u args st = invoke E gas u args st := by
  rw [invoke_ren h]

/-- **the round trip is unobservable**: if `E'` is the renumbering (`EnvRen`) of the *elided* module,
    then the renumbered module — exports, start function, element items and `ref.func` constants
    renumbered along — has exactly the observation of the original, for every module, script and gas
    budget -/
theorem round_trip_unobservable {fρ yρ : Nat → Nat} {btρ : BT → BT} {xρ : Nat → Nat → Nat}
    {E' E : Env} (h : EnvRen fρ yρ btρ xρ E' E.elide) (m : ModuleM) (gas seed rounds : Nat) :
    observeWith (mapFM fρ m) E'.resolve E'.usigs (invoke E' gas) seed rounds =
    observeWith m E.resolve E.usigs (invoke E gas) seed rounds :=
  observe_ren_elide h m gas seed rounds

/-- body-level forms, for any meaning of calls and loop re-entry that agrees on the two sides -/
theorem round_trip_preserves_behaviour_partial (C : Ctx) (R' R : Rec) (h : RecRel R' R)
    (body : SL) (s : St) : execL C R' body.elide s = execL C R body s :=
  elide_execL C R' R h body s

theorem renumbered_body_behaves_the_same (ρ : Ren) (C' C : Ctx) (hc : CtxRen ρ C' C) (R' R : Rec)
    (hr : RecRen ρ C' C R' R) (body : SL) (s : St) (hl : body.All (localOK C' C ρ)) :
    execL C' R' (body.ren ρ) s = execL C R body s :=
  ren_execL ρ C' C hc R' R hr body s hl

/-- **the written body is the renumbered elided source body**: if the interpreter reads the source
    operators of a well-nested body as the tree `t`, then it reads what `emit ∘ parse` writes for
    that body (`outL`) as `ren ρ (elide t)`: `nop`s and everything behind an unconditional transfer
    gone, constructs nested as before, an `else` for every `if`, operands and block types renumbered
    — for every body, whenever the maps agree with `ρ` on what survives -/
theorem written_body_is_ren_elide_of_source (e : PEnv) (m : IdMaps) (ρ : Ren) (body : PL) (hw : body.WF)
    (endLoc : Nat) (ops : List (Nat × Op)) (u : Bool) (ho : outL e m false body = some (ops, u))
    (t : SL) (ht : structureBody ((body.flat ++ [(opEnd, endLoc)]).map (·.1)) = some t)
    (ha : agreeL e m ρ t.elide = true) :
    structureBody (ops.map (·.2) ++ [⟨"End", []⟩]) = some (t.elide.ren ρ) :=
  round_trip_reads_as_ren_elide e m ρ body hw endLoc ops u ho t ht ha

/-- **the written body is `ren (elide source)` for the renumbering the maps themselves induce**, with
    no hypothesis about the maps left to evaluate: for every well-nested body of operators of the
    decoder's shape (`PL.Shaped` of the live part: labels on branches, a function on calls and
    `ref.func`, a type and a table on indirect calls, a local on the local operators, memarg offsets
    below 2^32) that `emit ∘ parse` answers for, with maps that keep tables, globals, memories and
    segments in place (emission without a pass) -/
theorem written_body_is_ren_elide_by_the_emission_maps (e : PEnv) (m : IdMaps)
    (hid : ∀ sp i, idSpace sp = true → m.get sp i = some i) (body : PL) (hw : body.WF) (hsh : body.live.Shaped)
    (endLoc : Nat) (ops : List (Nat × Op)) (u : Bool) (ho : outL e m false body = some (ops, u)) :
    structureBody (ops.map (·.2) ++ [⟨"End", []⟩]) = some (body.toSem.elide.ren (renOfMaps e m)) :=
  round_trip_reads_as_ren_elide e m (renOfMaps e m) body hw endLoc ops u ho body.toSem
    (source_reads_as_toSem body hw endLoc) (agreeSrc_L e m hid body hw hsh ops u ho)

/-- the same with the shape hypothesis in its decidable form (`PL.shapedB`), which `rentie` evaluates
    for every function of every case -/
theorem written_body_is_ren_elide_by_the_emission_maps_checked (e : PEnv) (m : IdMaps)
    (hid : ∀ sp i, idSpace sp = true → m.get sp i = some i) (body : PL) (hw : body.WF) (hsh : body.live.shapedB = true)
    (endLoc : Nat) (ops : List (Nat × Op)) (u : Bool) (ho : outL e m false body = some (ops, u)) :
    structureBody (ops.map (·.2) ++ [⟨"End", []⟩]) = some (body.toSem.elide.ren (renOfMaps e m)) :=
  written_body_is_ren_elide_by_the_emission_maps e m hid body hw (shapedB_L body.live hsh) endLoc ops u ho

/-- the maps of an emission without a pass keep tables, globals, memories and segments in place: this
    is the hypothesis `hid` of the two theorems above -/
theorem plain_emission_maps_are_identity_outside_f_y_x (c : InCode) (pfs : List ParsedFunc) (lmap : List (Nat × Nat))
    (sp : String) (i : Nat) (h : idSpace sp = true) :
    (mapsOf c pfs (keepAll c pfs.length) lmap).get sp i = some i :=
  keepAll_get_id c pfs _ lmap sp i (by simpa [idSpace, or_assoc] using h)

/-- … and so the written body executes exactly as the source body, in every state, for any meaning
    of calls and loop re-entry that is related the way `invoke_ren` and `invoke_elide` relate them -/
theorem written_body_behaves_as_source (e : PEnv) (m : IdMaps) (ρ : Ren) (body : PL) (hw : body.WF)
    (endLoc : Nat) (ops : List (Nat × Op)) (u : Bool) (ho : outL e m false body = some (ops, u))
    (t : SL) (ht : structureBody ((body.flat ++ [(opEnd, endLoc)]).map (·.1)) = some t)
    (ha : agreeL e m ρ t.elide = true)
    (C' C : Ctx) (hc : CtxRen ρ C' C) (R'' R' R : Rec) (hr : RecRen ρ C' C R'' R') (he : RecRel R' R)
    (hl : t.elide.All (localOK C' C ρ)) :
    ∃ t', structureBody (ops.map (·.2) ++ [⟨"End", []⟩]) = some t' ∧
      ∀ s, execL C' R'' t' s = execL C R t s := by
  refine ⟨_, written_body_is_ren_elide_of_source e m ρ body hw endLoc ops u ho t ht ha, fun s => ?_⟩
  rw [ren_execL ρ C' C hc R'' R' hr t.elide s hl, elide_execL C R' R he t s]

/-- for operators without entity operands (constants, arithmetic, comparisons, conversions, `drop`,
    `select`, …) the agreement hypothesis holds outright, for every environment, maps and `ρ` -/
theorem operators_without_entity_operands_agree (e : PEnv) (m : IdMaps) (ρ : Ren) (o : Op)
    (hs : structuralName o.name = false)
    (hc : o.name ≠ "Br" ∧ o.name ≠ "BrIf" ∧ o.name ≠ "BrTable" ∧ o.name ≠ "Return" ∧ o.name ≠ "Unreachable" ∧
      o.name ≠ "Nop") (hr : noRefs o.args) : agreeI e m ρ (.op o) = true :=
  agree_of_noRefs e m ρ o hs hc hr

-- non-vacuity: a body with a nop, a call, a block whose branch is followed by dead code, an `if`
-- without `else`; functions 0 and 1 swapped by the emit-time map and by ρ
def srcBody : PL :=
  .cons (.op ⟨"Nop", []⟩ 1)
  (.cons (.op ⟨"Call", [.ref "f" 1]⟩ 2)
  (.cons (.blk ⟨"Block", [.bt .empty]⟩ 3
      (.cons (.op ⟨"Br", [.ref "l" 0]⟩ 4) (.cons (.op ⟨"Drop", []⟩ 5) .nil)) 6)
  (.cons (.op ⟨"I32Const", [.num 1]⟩ 7)
  (.cons (.if1 ⟨"If", [.bt .empty]⟩ 8 (.cons (.op ⟨"Call", [.ref "f" 0]⟩ 9) .nil) 10) .nil))))
def srcEnv : PEnv := ⟨[0, 1], [], [], []⟩
def srcMaps : IdMaps := { funcs := [(0, 1), (1, 0)] }
def swap01' (n : Nat) : Nat := if n = 0 then 1 else if n = 1 then 0 else n   -- `swap01` below, once more
def srcRen : Ren := ⟨swap01', id, id, id⟩
example : srcBody.WF ∧ agreeL srcEnv srcMaps srcRen srcBody.toSem.elide = true ∧
    (outL srcEnv srcMaps false srcBody).map (·.1.map (·.2)) = some
      [⟨"Call", [.ref "f" 0]⟩, ⟨"Block", [.bt .empty]⟩, ⟨"Br", [.ref "l" 0]⟩, ⟨"End", []⟩,
       ⟨"I32Const", [.num 1]⟩, ⟨"If", [.bt .empty]⟩, ⟨"Call", [.ref "f" 1]⟩, ⟨"Else", []⟩, ⟨"End", []⟩] := by
  refine ⟨by simp [srcBody, PL.WF, PI.WF, isStructural], by decide, by decide⟩

example : srcBody.live.shapedB = true := by decide +kernel

-- non-vacuity: elision does remove instructions, including a nested block after a branch
def sampleBody : SL := SL.ofList
  [.op ⟨"Nop", []⟩, .op ⟨"I32Const", [.num 1]⟩, .op ⟨"Br", [.ref "l" 0]⟩,
   .block .empty (SL.ofList [.op ⟨"Unreachable", []⟩]), .op ⟨"Drop", []⟩]
example : sampleBody.size = 6 ∧ sampleBody.elide.size = 2 := by decide +kernel
example : sampleBody.elide.flat = [⟨"I32Const", [.num 1]⟩, ⟨"Br", [.ref "l" 0]⟩] := by decide +kernel

-- non-vacuity of the renumbering hypotheses: two functions swapped, the second local of function 1
-- moved to slot 1 after an unused local was dropped
def envA : Env :=
  ⟨[([], [])], [0, 1],
   [⟨([], []), none, [], SL.ofList [.op ⟨"Call", [.ref "f" 1]⟩]⟩,
    ⟨([], []), none, [(0, "i32"), (1, "i32")], SL.ofList [.op ⟨"LocalGet", [.ref "x" 1]⟩, .op ⟨"Drop", []⟩]⟩]⟩
def envB : Env :=
  ⟨[([], [])], [1, 0],
   [⟨([], []), none, [], SL.ofList [.op ⟨"Call", [.ref "f" 0]⟩]⟩,
    ⟨([], []), none, [(1, "i32")], SL.ofList [.op ⟨"LocalGet", [.ref "x" 0]⟩, .op ⟨"Drop", []⟩]⟩]⟩
def swap01 (n : Nat) : Nat := if n = 0 then 1 else if n = 1 then 0 else n

example : EnvRen swap01 id id (fun _ x => x - 1) envB envA := by
  refine ⟨?_, ?_, ?_, rfl, ?_⟩
  · intro f
    match f with
    | 0 => rfl
    | 1 => rfl
    | n+2 => simp [swap01, envA, envB]
  · intro y; rfl
  · intro b; rfl
  · intro u fi hu
    match u with
    | 0 =>
      simp [envA] at hu; subst hu
      exact ⟨_, rfl, rfl, rfl, rfl, by simp [SL.ofList, SL.ren, SI.ren, Ren.op, swap01], by simp [SL.ofList, SL.All, SI.All, localOK, isLocalOp]⟩
    | 1 =>
      simp [envA] at hu; subst hu
      refine ⟨_, rfl, rfl, rfl, rfl, by simp [SL.ofList, SL.ren, SI.ren, Ren.op, isLocalOp], ?_⟩
      simp [SL.ofList, SL.All, SI.All, localOK, isLocalOp, Env.ctx, envB]
    | n+2 => simp [envA] at hu

end C01
end Walrus
