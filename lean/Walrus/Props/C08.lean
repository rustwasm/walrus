import Walrus.Proofs.Sections
import Walrus.Proofs.Fixpoint

/-!
# C08 — emission is deterministic, repeatable and a fixpoint of the round trip
(slice: custom sections, producers, name-section presence, DWARF presence)

`semit` is a function of the module state, so determinism is definitional in the model; its
content is that the model has no hidden input, which is what the correspondence run and the
byte-equality oracle (same process, fresh processes) check. What is proved here:
emitting changes nothing in the in-memory module, so repeated emits give the same sections; and
re-parsing walrus's own output and emitting again reproduces the same section list.
The whole-module fixpoint `emit (parse out) = out` is decided by the byte-equality oracle and the
exact-prediction correspondence; the second half of the file shows that the transformations the
round trip applies are each idempotent: what it does once it does not do again.
-/
namespace Walrus
namespace C08

/-- emitting consumes or alters nothing -/
theorem emit_pure (m : SMod) : (semit m).2 = m := rfl

/-- any number of emits (with GC runs in between) on one in-memory module yield the same output -/
theorem emit_repeatable (m : SMod) (script : List SOp) : ∀ o ∈ srun m script, o = (semit m).1 :=
  srun_eq m script

/-- one full round trip at the level of this slice: parse, emit (the output section list) -/
def roundTrip (cfg : SCfg) (ver : String) (input : List InC) : List OutC :=
  match sparse cfg ver true input with
  | some m => (semit m).1
  | none => []

theorem classify_name : classify "name" = .name := by decide +kernel
theorem classify_producers : classify "producers" = .producers := by decide +kernel
theorem classify_debug_info : classify ".debug_info" = .debug := by decide +kernel

/-- the output of a parsed module, group by group -/
theorem roundTrip_eq (cfg : SCfg) (ver : String) (input : List InC) :
    roundTrip cfg ver input =
      (if !cfg.skipName && (nameIn none input).isSome then [OutC.names (nameIn none input)] else []) ++
      (if !cfg.skipProducers then [OutC.producers (producersField (prodIn input) "processed-by" "walrus" ver)] else []) ++
      (if cfg.generateDwarf && dwarfIn input then [OutC.dwarf] else []) ++
      (rawIn input).map (fun c => OutC.raw c.1 c.2) := by
  simp [roundTrip, sparse_eq, semit, filter_not_debug_of_raw (classify_of_mem_rawIn input), producersField_ne_nil]

/-- Reading back an output of the shape `semit` gives it, whichever of the three optional sections are
    present: each view gets the contents of its own group and nothing from the others. -/
theorem views_of_output (b₁ b₂ b₃ : Bool) (n : Option String) (P : List PField) (R : List (String × String))
    (hR : ∀ c ∈ R, classify c.1 = .raw) (out : List OutC)
    (hout : out = (if b₁ then [OutC.names n] else []) ++ (if b₂ then [OutC.producers P] else []) ++
      (if b₃ then [OutC.dwarf] else []) ++ R.map (fun c => OutC.raw c.1 c.2)) :
    rawIn (out.map OutC.toIn) = R ∧ prodIn (out.map OutC.toIn) = (if b₂ then P else []) ∧
    nameIn none (out.map OutC.toIn) = (if b₁ then n else none) ∧ dwarfIn (out.map OutC.toIn) = b₃ := by
  have hmap : (R.map fun c => OutC.raw c.1 c.2).map OutC.toIn = R.map rawToIn := by simp [OutC.toIn, rawToIn]
  have hn : nameStep none ⟨"name", "", [], n, false⟩ = n := by cases n <;> simp [nameStep, classify_name]
  subst hout
  simp only [List.map_append, hmap, rawIn_append, prodIn_append, nameIn_append, dwarfIn_append,
    rawIn_raws R hR, prodIn_raws, nameIn_raws, dwarfIn_raws]
  -- the eight combinations of the three optional sections
  cases b₁ <;> cases b₂ <;> cases b₃ <;>
    simp [rawIn, prodIn, nameIn, hn, nameStep_of_modname_none, dwarfIn, OutC.toIn, classify_name,
      classify_producers, classify_debug_info]

/-- **Fixpoint.** Re-parsing the output of a round trip and emitting again gives the same
    sections (custom sections, producers fields, name and DWARF presence). -/
theorem roundtrip_fixpoint (cfg : SCfg) (ver : String) (input : List InC) :
    roundTrip cfg ver ((roundTrip cfg ver input).map OutC.toIn) = roundTrip cfg ver input := by
  obtain ⟨hR, hP, hN, hD⟩ :=
    views_of_output _ _ _ _ _ _ (classify_of_mem_rawIn input) _ (roundTrip_eq cfg ver input)
  rw [roundTrip_eq cfg ver (List.map _ _), hR, hP, hN, hD, roundTrip_eq cfg ver input]
  -- group by group: the guards are idempotent, and walrus is already recorded in the producers field
  cases cfg.skipName <;> cases cfg.skipProducers <;> cases nameIn none input <;> simp [producersField_idem]

/-- the classification at its boundaries -/
example : classify ".debug_info" = .debug ∧ classify ".debug" = .debug ∧ classify ".debu" = .raw ∧
    classify "" = .raw ∧ classify "name" = .name ∧ classify "producers" = .producers ∧ classify "names" = .raw := by decide +kernel

/-- a body that went through nop / dead-code elision is not changed by eliding again -/
theorem elision_is_idempotent (l : Sem.SL) : l.elide.elide = l.elide := elide_idem_L l

/-- the type section of the output holds distinct signatures: de-duplicating it again merges nothing -/
theorem type_dedup_is_idempotent (sigs : List Sig) : distinctSigs (distinctSigs sigs) = distinctSigs sigs :=
  distinctSigs_idem sigs

/-- a list that was sorted by a total comparison is left alone by sorting again (types by
    signature, functions by size then id) -/
theorem emission_order_is_idempotent {α : Type} (le : α → α → Bool)
    (total : ∀ a b, le a b = false → le b a = true) (l : List α) : sortBy le (sortBy le l) = sortBy le l :=
  sortBy_idem le total l

/-- … in particular the function order (size descending, id ascending) -/
theorem function_order_is_idempotent (l : List (Nat × Nat)) :
    sortBy (fun a b => decide (a.2 > b.2) || (a.2 == b.2 && decide (a.1 ≤ b.1)))
      (sortBy (fun a b => decide (a.2 > b.2) || (a.2 == b.2 && decide (a.1 ≤ b.1))) l) =
    sortBy (fun a b => decide (a.2 > b.2) || (a.2 == b.2 && decide (a.1 ≤ b.1))) l :=
  emission_order_is_idempotent _ funcOrder_total l

example : sortBy (fun (a b : Nat × Nat) => decide (a.2 > b.2) || (a.2 == b.2 && decide (a.1 ≤ b.1))) [(0, 1), (1, 5), (2, 5)] =
    [(1, 5), (2, 5), (0, 1)] := by decide +kernel

/-- reading a name section is idempotent: what `parse_name_section` applies of a name section, it
    applies in full when it meets it again (the local-name prefix it kept is kept whole, nothing is
    dropped a second time), and the in-range filter removes nothing from what it already let through -/
theorem name_reading_is_idempotent (nF nY nT nM nG nE nD : Nat) (n : NamesM) :
    appliedNames nF (appliedNames nF n) = appliedNames nF n ∧
    inRangeNames nF nY nT nM nG nE nD (inRangeNames nF nY nT nM nG nE nD n) = inRangeNames nF nY nT nM nG nE nD n := by
  constructor
  · unfold appliedNames
    by_cases h : (n.locals.takeWhile (·.1 < nF)).length = n.locals.length
    · simp [h]
    · simp only [h, if_false]
      simp [takeWhile_idem]
  · simp [inRangeNames, List.filter_filter]

end C08
end Walrus