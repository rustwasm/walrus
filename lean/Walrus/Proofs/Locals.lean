import Walrus.Proofs.Lists

/-!
`emit_locals`: the local map handed out at emission is total on the locals a body
uses, injective, puts parameters at their positions, and sends every other local to a slot whose
declared type is the local's type — for every function, every set of used locals.
-/
namespace Walrus

/-- the used non-parameter locals in the order they are declared: by type rank, ascending inside -/
def emitOrder (args : List Nat) (tyOf : Nat → String) (used : List Nat) : List Nat :=
  let nonArgs := used.filter (fun l => !args.contains l)
  ([0, 1, 2, 3, 4, 5, 6, 7].filterMap fun r =>
    let g := nonArgs.filter (fun l => tyRank (tyOf l) = r)
    match g with
    | [] => none
    | l :: _ => some (tyOf l, g)).flatMap (·.2)

theorem ite_le {c : Prop} [Decidable c] {a b n : Nat} (ha : a ≤ n) (hb : b ≤ n) :
    (if c then a else b) ≤ n := by
  split <;> assumption

theorem tyRank_le (t : String) : tyRank t ≤ 7 := by
  unfold tyRank
  repeat' apply ite_le
  all_goals decide

/-- the seven value types walrus knows are told apart by their rank -/
def knownTy (t : String) : Prop := tyRank t < 7

/-- `tyRank` read backwards: a rank below 7 is a position in the derived order of `ValType` -/
theorem rankTy_tyRank (t : String) (h : knownTy t) :
    ["i32", "i64", "f32", "f64", "v128", "funcref", "externref"][tyRank t]? = some t := by
  unfold knownTy tyRank at *
  -- down the chain by `if_pos`/`if_neg`; `subst; rfl` would have the literals compared by evaluation
  by_cases h0 : t = "i32"; · rw [if_pos h0, h0]; rfl
  by_cases h1 : t = "i64"; · rw [if_neg h0, if_pos h1, h1]; rfl
  by_cases h2 : t = "f32"; · rw [if_neg h0, if_neg h1, if_pos h2, h2]; rfl
  by_cases h3 : t = "f64"; · rw [if_neg h0, if_neg h1, if_neg h2, if_pos h3, h3]; rfl
  by_cases h4 : t = "v128"; · rw [if_neg h0, if_neg h1, if_neg h2, if_neg h3, if_pos h4, h4]; rfl
  by_cases h5 : t = "funcref"; · rw [if_neg h0, if_neg h1, if_neg h2, if_neg h3, if_neg h4, if_pos h5, h5]; rfl
  by_cases h6 : t = "externref"
  · rw [if_neg h0, if_neg h1, if_neg h2, if_neg h3, if_neg h4, if_neg h5, if_pos h6, h6]; rfl
  rw [if_neg h0, if_neg h1, if_neg h2, if_neg h3, if_neg h4, if_neg h5, if_neg h6] at h
  omega

theorem tyRank_inj (a b : String) (ha : knownTy a) (h : tyRank a = tyRank b) : a = b := by
  have hb : knownTy b := by unfold knownTy at *; omega
  have := rankTy_tyRank a ha
  rw [h, rankTy_tyRank b hb] at this
  exact (Option.some.inj this).symm

/-- one declared group: the non-parameter locals of rank `r`, if any, with the type of the first -/
def grp (tyOf : Nat → String) (nonArgs : List Nat) (r : Nat) : Option (String × List Nat) :=
  let g := nonArgs.filter (fun l => tyRank (tyOf l) = r)
  match g with
  | [] => none
  | l :: _ => some (tyOf l, g)

theorem grp_spec (tyOf : Nat → String) (nonArgs : List Nat) (r : Nat) :
    match grp tyOf nonArgs r with
    | none => nonArgs.filter (fun l => tyRank (tyOf l) = r) = []
    | some g => g.2 = nonArgs.filter (fun l => tyRank (tyOf l) = r) ∧ ∃ l ∈ g.2, g.1 = tyOf l := by
  unfold grp
  cases hf : nonArgs.filter (fun l => tyRank (tyOf l) = r) with
  | nil => rfl
  | cons l t => exact ⟨rfl, l, List.mem_cons_self, rfl⟩

theorem groups_flatMap (tyOf : Nat → String) (nonArgs : List Nat) : ∀ (rs : List Nat),
    (rs.filterMap (grp tyOf nonArgs)).flatMap (·.2) = rs.flatMap fun r => nonArgs.filter (fun l => tyRank (tyOf l) = r)
  | [] => rfl
  | r :: rs => by
    have := grp_spec tyOf nonArgs r
    rw [List.filterMap_cons, List.flatMap_cons, ← groups_flatMap tyOf nonArgs rs]
    split at this
    · rename_i hg; rw [hg, this]; rfl
    · rename_i g hg; rw [hg, List.flatMap_cons, this.1]

theorem groups_types (tyOf : Nat → String) (nonArgs : List Nat) (hk : ∀ l ∈ nonArgs, knownTy (tyOf l)) : ∀ (rs : List Nat),
    (rs.filterMap (grp tyOf nonArgs)).flatMap (fun g => List.replicate g.2.length g.1) =
      ((rs.filterMap (grp tyOf nonArgs)).flatMap (·.2)).map tyOf
  | [] => by simp
  | r :: rs => by
    have ih := groups_types tyOf nonArgs hk rs
    have := grp_spec tyOf nonArgs r
    simp only [List.filterMap_cons]
    split at this
    · rename_i hg; simpa [hg] using ih
    · rename_i g hg
      obtain ⟨h1, l, hl, hgl⟩ := this
      simp only [hg, List.flatMap_cons, List.map_append, ih]
      congr 1
      -- every member of the group has the rank, hence the type, of `l`
      refine (List.eq_replicate_iff.2 ⟨by simp, fun t ht => ?_⟩).symm
      obtain ⟨x, hx, rfl⟩ := List.mem_map.1 ht
      rw [h1] at hx hl
      simp only [List.mem_filter, decide_eq_true_eq] at hx hl
      rw [hgl]
      exact tyRank_inj _ _ (hk x hx.1) (by rw [hx.2, hl.2])

theorem emitOrder_eq (args : List Nat) (tyOf : Nat → String) (used : List Nat) :
    emitOrder args tyOf used =
      ([0, 1, 2, 3, 4, 5, 6, 7].filterMap (grp tyOf (used.filter (fun l => !args.contains l)))).flatMap (·.2) := rfl

theorem emitLocals_decls_eq (args : List Nat) (tyOf : Nat → String) (used : List Nat) :
    (emitLocals args tyOf used).1 = ([0, 1, 2, 3, 4, 5, 6, 7].filterMap (grp tyOf (used.filter (fun l => !args.contains l)))).map
      fun g => (g.2.length, g.1) := rfl

/-- every fact about local indices below is read off this equation -/
theorem emitLocals_map (args : List Nat) (tyOf : Nat → String) (used : List Nat) :
    (emitLocals args tyOf used).2 = (args ++ emitOrder args tyOf used).zipIdx.map fun p => (p.1, p.2) := by
  have shift : _ = (emitOrder args tyOf used).zipIdx args.length :=
    List.map_snd_add_zipIdx_eq_zipIdx (n := args.length) (k := 0)
  rw [List.zipIdx_append, List.map_append, Nat.zero_add, ← shift, List.map_map]
  rfl

theorem emitOrder_flatMap (args : List Nat) (tyOf : Nat → String) (used : List Nat) :
    emitOrder args tyOf used = [0, 1, 2, 3, 4, 5, 6, 7].flatMap fun r =>
      (used.filter (fun l => !args.contains l)).filter (fun l => tyRank (tyOf l) = r) :=
  groups_flatMap tyOf _ _

theorem emitOrder_mem (args : List Nat) (tyOf : Nat → String) (used : List Nat) (x : Nat) :
    x ∈ emitOrder args tyOf used ↔ x ∈ used ∧ x ∉ args := by
  have := tyRank_le (tyOf x)
  simp only [emitOrder_flatMap, List.mem_flatMap, List.mem_filter, decide_eq_true_eq, Bool.not_eq_eq_eq_not, Bool.not_true,
    List.contains_eq_mem, decide_eq_false_iff_not]
  -- `[0, …, 7]` is `List.range 8`
  exact ⟨fun ⟨_, _, h, _⟩ => h, fun h => ⟨_, (List.mem_range (n := 8)).2 (Nat.lt_succ_of_le this), h, rfl⟩⟩

theorem emitOrder_nodup (args : List Nat) (tyOf : Nat → String) (used : List Nat) (hu : used.Nodup) :
    (emitOrder args tyOf used).Nodup := by
  rw [emitOrder_flatMap, List.Nodup, List.pairwise_flatMap]
  refine ⟨fun r _ => (hu.filter _).filter _, List.Pairwise.imp ?_ (by decide : [0, 1, 2, 3, 4, 5, 6, 7].Nodup)⟩
  -- locals of different ranks differ
  intro r r' hne x hx y hy e
  simp only [List.mem_filter, decide_eq_true_eq] at hx hy
  exact hne (hx.2.symm.trans (e ▸ hy.2))

theorem emitLocals_decls (args : List Nat) (tyOf : Nat → String) (used : List Nat)
    (hk : ∀ l ∈ used, knownTy (tyOf l)) :
    expandLocals (emitLocals args tyOf used).1 = (emitOrder args tyOf used).map tyOf := by
  rw [emitLocals_decls_eq, emitOrder_eq]
  simp only [expandLocals, List.flatMap_map]
  exact groups_types tyOf _ (fun l hl => hk l (List.mem_filter.1 hl).1) _

/-- every local the body uses, and every parameter, has an index -/
theorem local_map_total (args : List Nat) (tyOf : Nat → String) (used : List Nat) (l : Nat)
    (h : l ∈ args ∨ l ∈ used) : ∃ i, assoc (emitLocals args tyOf used).2 l = some i := by
  apply Option.isSome_iff_exists.1
  rw [assoc_isSome_iff, emitLocals_map, keys_zipIdx_map (fun x => x) fun _ => rfl, List.map_id', List.mem_append, emitOrder_mem]
  by_cases ha : l ∈ args
  · exact Or.inl ha
  · exact Or.inr ⟨h.resolve_left ha, ha⟩

theorem local_index_pos (args : List Nat) (tyOf : Nat → String) (used : List Nat) (l i : Nat)
    (h : assoc (emitLocals args tyOf used).2 l = some i) : (args ++ emitOrder args tyOf used)[i]? = some l := by
  rw [emitLocals_map] at h
  obtain ⟨j, a, ha, rfl, rfl⟩ := assoc_zipIdx_get (fun x => x) (fun x => x) h
  rwa [Nat.zero_add]

theorem local_map_injective (args : List Nat) (tyOf : Nat → String) (used : List Nat)
    (a b i : Nat)
    (ha : assoc (emitLocals args tyOf used).2 a = some i) (hb : assoc (emitLocals args tyOf used).2 b = some i) :
    a = b :=
  Option.some.inj ((local_index_pos args tyOf used a i ha).symm.trans (local_index_pos args tyOf used b i hb))

theorem local_index_spec (args : List Nat) (tyOf : Nat → String) (used : List Nat)
    (hk : ∀ l ∈ used, knownTy (tyOf l)) (l i : Nat)
    (h : assoc (emitLocals args tyOf used).2 l = some i) :
    (l ∈ args ∧ args[i]? = some l) ∨
    (l ∉ args ∧ l ∈ used ∧ args.length ≤ i ∧ (emitOrder args tyOf used)[i - args.length]? = some l ∧
      (expandLocals (emitLocals args tyOf used).1)[i - args.length]? = some (tyOf l)) := by
  have hpos := local_index_pos args tyOf used l i h
  rw [emitLocals_decls args tyOf used hk]
  by_cases hi : i < args.length
  · rw [List.getElem?_append_left hi] at hpos
    exact Or.inl ⟨List.mem_of_getElem? hpos, hpos⟩
  · rw [List.getElem?_append_right (by omega)] at hpos
    have hm := (emitOrder_mem args tyOf used l).1 (List.mem_of_getElem? hpos)
    exact Or.inr ⟨hm.2, hm.1, by omega, hpos, by rw [List.getElem?_map, hpos]; rfl⟩

end Walrus
