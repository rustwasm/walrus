import Walrus.Proofs.GcSweep

/-!
# C06 — the GC pass never changes behaviour or breaks the module

What the proof carries (behaviour itself needs an executable semantics, see C01): the GC pass keeps
**every export, with its name and kind, in order**; the used set contains every root and is closed
under every edge the code scans — so anything a kept function, global, table, memory, data or
element segment refers to is kept as well; and lookups in the compaction maps succeed on everything
kept.  The remaining obligation — that the scanned edges are *all* the edges (every id operand of
every instruction, both element item kinds, const expressions, back-links) — is decided against the
code: the model's used set is compared with walrus's on every generated module (exact prediction of
the emitted module), an independent reachability over the input binary is compared with what
survives (oracle), and the output is validated.  `partial`: execution equivalence is not a theorem.
-/
namespace Walrus
namespace C06

/-- **exports survive the pass**: same count, same names and kinds, in order -/
theorem exports_preserved (m o : ModuleM) (h : gcRoundTrip m = some o) :
    o.exports.length = m.exports.length ∧
    ∀ (k : Nat) (e : String × String × Nat), m.exports[k]? = some e → ∃ i, o.exports[k]? = some (e.1, e.2.1, i) := by
  obtain ⟨g, oc, _, _, _, ho⟩ := gcRoundTrip_some m o h
  refine ⟨mapM_some_length ho.exports, ?_⟩
  intro k e hk
  obtain ⟨y, hy, hf⟩ := mapM_some_get ho.exports k e hk
  simp only [Option.map_eq_some_iff] at hf
  obtain ⟨i, _, rfl⟩ := hf
  exact ⟨i, hy⟩

/-- every export target, the start function, every active data segment and every rooted element
    segment is in the used set -/
theorem roots_kept (g : GcInfo) (hd : usedFinished g = true) (x : Ent) (hx : x ∈ gcRoots g) :
    x ∈ usedSet g := usedSet_roots g hd x hx

theorem export_targets_kept (g : GcInfo) (hd : usedFinished g = true) (e : String × String × Nat)
    (he : e ∈ g.m.exports) : (e.2.1, e.2.2) ∈ usedSet g :=
  usedSet_roots g hd _ (export_mem_gcRoots g e he)

theorem start_kept (g : GcInfo) (hd : usedFinished g = true) (s : Nat) (hs : g.m.start = some s) :
    ("f", s) ∈ usedSet g :=
  usedSet_roots g hd _ (start_mem_gcRoots g s hs)

/-- what a custom section declares as a root is kept -/
theorem custom_section_roots_kept (g : GcInfo) (hd : usedFinished g = true) (x : Ent) (hx : x ∈ g.m.roots) :
    x ∈ usedSet g :=
  usedSet_roots g hd x (custom_mem_gcRoots g x hx)

/-- **everything an entity reachable from the roots refers to is kept** (for every edge the code scans;
    `usedSet_succ` says the same of the residue memory, kept without being reachable) -/
theorem referents_kept (g : GcInfo) (hd : usedFinished g = true) (x y : Ent)
    (hx : Reach (gcSucc g) (gcRoots g).eraseDups x) (hy : y ∈ gcSucc g x) : y ∈ usedSet g :=
  reach_usedSet g hd y (Reach.step x y hx hy)

/-- in particular: the type of a reachable local function and every entity operand of the instructions
    its traversal reaches -/
theorem body_referents_kept (g : GcInfo) (hd : usedFinished g = true) (f : Nat) (pf : ParsedFunc)
    (hloc : ¬ f < g.nif) (hpf : g.pfs[f - g.nif]? = some pf)
    (hx : Reach (gcSucc g) (gcRoots g).eraseDups ("f", f)) :
    ("y", pf.ty) ∈ usedSet g ∧ ∀ y ∈ refsOfBody pf.seqs, y ∈ usedSet g := by
  have hs := gcSucc_local g f pf hloc hpf
  exact ⟨referents_kept g hd _ _ hx (by rw [hs]; exact List.mem_cons_self),
         fun y hy => referents_kept g hd _ _ hx (by rw [hs]; exact List.mem_cons_of_mem _ hy)⟩

/-- a kept entity always has an emitted index -/
theorem kept_has_index (u : List Ent) (sp : String) (n i : Nat) (hi : i < n) (hu : (sp, i) ∈ u) :
    (assoc (compact (keptOf u sp n)) i).isSome = true :=
  assoc_compact_isSome.2 (mem_keptOf.2 ⟨hi, hu⟩)

-- non-vacuity
def sample : ModuleM :=
  { sigs := [([], [])], funcs := [0, 0],
    globals := [(⟨"i32", true, false⟩, [⟨"I32Const", [.num 1]⟩])],
    exports := [("run", "f", 0)],
    code := [([], [(⟨"Call", [.ref "f" 1]⟩, 0), (⟨"End", []⟩, 0)]),
             ([], [(⟨"GlobalGet", [.ref "g" 0]⟩, 0), (⟨"Drop", []⟩, 0), (⟨"End", []⟩, 0)])] }
example : (gcRoundTrip sample).map (fun o => (o.exports, o.globals.length)) = some ([("run", "f", 1)], 1) := by decide +kernel
example : (mkGcInfo sample).map usedFinished = some true := by decide +kernel

end C06
end Walrus
