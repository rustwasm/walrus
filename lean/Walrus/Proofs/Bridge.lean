import Walrus.Proofs.RoundTripBody
import Walrus.Proofs.Structure
import Walrus.Rename

/-!
The two descriptions of a function body meet (C01, C03).  Proofs/RoundTripBody describes what
`emit ∘ parse` writes for a body on the source tree with locations (`outL`); the executable semantics
reads a flat operator list back into a tree (`structureBody`).  Here: what `outL` writes, read back,
*is* `ren ρ (elide t)` of the source tree `t`, for every body on whose surviving operators and block
types the parse-time and emit-time maps agree with `ρ` (`agreeL`, decidable).  Last: on operators
without entity operands (`noRefs`) every `ρ` agrees.
-/
namespace Walrus
open Sem (SI SL Ren PFr structureOps structureBody structuralName Reads)

theorem transfers_endsSeq (o : Op) : transfers o.name = Sem.endsSeq o := by
  simp only [transfers, Sem.endsSeq, Bool.or_assoc, Bool.or_comm (decide (o.name = "Unreachable"))]

theorem isStructural_eq (n : String) : isStructural n = structuralName n := rfl

-- the source tree as the interpreter sees it
mutual
def PI.toSem : PI → SI
  | .op o _ => .op o
  | .blk o _ b _ => if o.name = "Block" then .block (Sem.btOf o) b.toSem else .loop (Sem.btOf o) b.toSem
  | .if1 o _ t _ => .ite (Sem.btOf o) t.toSem .nil
  | .if2 o _ t _ e _ => .ite (Sem.btOf o) t.toSem e.toSem
def PL.toSem : PL → SL
  | .nil => .nil
  | .cons h t => .cons h.toSem t.toSem
end

def PI.isOp : PI → Bool
  | .op _ _ => true
  | _ => false

theorem btOf_sem (o : Op) (bt : BT) (h : btOf o = some bt) : Sem.btOf o = bt := by
  unfold btOf at h
  split at h
  · -- the operand list is `[.bt b]`, and `Sem.btOf` reads the same `b`
    rename_i b hargs
    cases h
    simp [Sem.btOf, hargs]
  · cases h

/-- the two spellings of "the block type written": from the operator, from its block type -/
theorem outBtOf_of_outBt {e : PEnv} {m : IdMaps} {o : Op} {a : Arg} (h : outBt e m o = some a) :
    outBtOf e m (Sem.btOf o) = some a := by
  unfold outBt at h
  cases hbt : btOf o with
  | none => simp [hbt] at h
  | some bt =>
    cases btOf_sem o bt hbt
    simpa [hbt, outBtOf] using h

/-- `outL` and `elide` walk a sequence in lockstep: a `nop` writes nothing and is elided; a transfer
    writes itself and kills its tail on both sides; anything else writes itself, leaves the tail
    reachable and is elided in place. -/
theorem outL_cons_elide {e : PEnv} {m : IdMaps} {h : PI} {t : PL} {ops : List (Nat × Op)} {u : Bool}
    (ho : outL e m false (.cons h t) = some (ops, u)) :
    (∃ o loc, h = .op o loc ∧ o.name = "Nop" ∧ outL e m false t = some (ops, u) ∧
      (PL.cons h t).toSem.elide = t.toSem.elide) ∨
    (∃ o loc, h = .op o loc ∧ o.name ≠ "Nop" ∧ outI e m false h = some (ops, true) ∧
      (PL.cons h t).toSem.elide = .cons (.op o) .nil) ∨
    (∃ o1 o2, outI e m false h = some (o1, false) ∧ outL e m false t = some (o2, u) ∧ ops = o1 ++ o2 ∧
      (∀ o loc, h = .op o loc → o.name ≠ "Nop" ∧ transfers o.name = false) ∧
      (PL.cons h t).toSem.elide = .cons h.toSem.elide t.toSem.elide) := by
  obtain ⟨o1, u1, o2, h1, h2, rfl⟩ := outL_cons_some ho
  cases h with
  | op o loc =>
    obtain ⟨hl, rfl⟩ := outI_op_some h1
    by_cases hn : o.name = "Nop"
    · cases (outLeaf_nop e m o loc hn).symm.trans hl
      exact .inl ⟨o, loc, rfl, hn, transfers_nop hn ▸ h2, by simp [PL.toSem, PI.toSem, SL.elide, hn]⟩
    · cases ht : transfers o.name with
      | true =>
        rw [ht, outL_dead] at h2
        cases h2
        exact .inr (.inl ⟨o, loc, rfl, hn, by simpa [ht] using h1,
          by simp [PL.toSem, PI.toSem, SL.elide, hn, ← transfers_endsSeq, ht]⟩)
      | false =>
        rw [ht] at h1 h2
        exact .inr (.inr ⟨o1, o2, h1, h2, rfl, fun _ _ hh => by cases hh; exact ⟨hn, ht⟩,
          by simp [PL.toSem, PI.toSem, SL.elide, SI.elide, hn, ← transfers_endsSeq, ht]⟩)
  | blk o loc b el =>
    obtain ⟨_, _, _, _, _, rfl, _⟩ := outI_blk_some h1
    refine .inr (.inr ⟨o1, o2, h1, h2, rfl, fun _ _ hh => (nomatch hh), ?_⟩)
    simp only [PL.toSem, PI.toSem]
    split <;> simp [SL.elide]
  | if1 o loc b el =>
    obtain ⟨_, _, _, _, _, rfl, _⟩ := outI_if1_some h1
    exact .inr (.inr ⟨o1, o2, h1, h2, rfl, fun _ _ hh => (nomatch hh), by simp [PL.toSem, PI.toSem, SL.elide]⟩)
  | if2 o loc b l2 f el =>
    obtain ⟨_, _, _, _, _, _, _, _, rfl, _⟩ := outI_if2_some h1
    exact .inr (.inr ⟨o1, o2, h1, h2, rfl, fun _ _ hh => (nomatch hh), by simp [PL.toSem, PI.toSem, SL.elide]⟩)

def BridgeI (e : PEnv) (m : IdMaps) (ρ : Ren) (i : PI) : Prop :=
  ∀ (ops : List (Nat × Op)) (u : Bool) (rest : List Op) (p : PFr) (fs : List PFr),
    outI e m false i = some (ops, u) → agreeI e m ρ i.toSem.elide = true →
    structureOps (ops.map (·.2) ++ rest) (p :: fs) =
      structureOps rest ({ p with acc := (i.toSem.elide.ren ρ) :: p.acc } :: fs)

/-- the header of a construct, as `emit` writes it for the block type `agreeI` accepts -/
theorem outBt_header {e : PEnv} {m : IdMaps} {ρ : Ren} {o : Op} {a : Arg} (name : String) (h : outBt e m o = some a)
    (hb : (outBtOf e m (Sem.btOf o) == some (.bt (ρ.bt (Sem.btOf o)))) = true) :
    (⟨name, [a]⟩ : Op) = ⟨name, [.bt (ρ.bt (Sem.btOf o))]⟩ ∧ Sem.btOf ⟨name, [.bt (ρ.bt (Sem.btOf o))]⟩ = ρ.bt (Sem.btOf o) := by
  obtain rfl : a = .bt (ρ.bt (Sem.btOf o)) :=
    Option.some.inj ((outBtOf_of_outBt h).symm.trans (by simpa using hb))
  exact ⟨rfl, rfl⟩

mutual
theorem bridgeR_I (e : PEnv) (m : IdMaps) (ρ : Ren) : (i : PI) → ∀ (ops : List (Nat × Op)) (u : Bool),
    outI e m false i = some (ops, u) → agreeI e m ρ i.toSem.elide = true → Reads (ops.map (·.2)) [i.toSem.elide.ren ρ]
  | .op o loc, ops, u, ho, ha => by
      simp only [PI.toSem, SI.elide, agreeI, Bool.and_eq_true, Bool.not_eq_true', beq_iff_eq] at ha
      have hl := (outI_op_some ho).1
      rw [outLeaf_eq_map, ha.2] at hl
      cases hl
      exact .leaf (by rw [Sem.Ren.op_name]; exact ha.1)
  | .blk o loc b el, ops, u, ho, ha => by
      obtain ⟨a, body, ub, h1, h2, rfl, rfl⟩ := outI_blk_some ho
      by_cases hn : o.name = "Block"
      · simp only [PI.toSem, hn, if_true, SI.elide, agreeI, Bool.and_eq_true] at ha ⊢
        obtain ⟨e1, e2⟩ := outBt_header "Block" h1 ha.1
        simpa [e1, e2, Sem.ofList_toList, SI.ren] using Reads.block (o := ⟨"Block", [a]⟩) rfl (bridgeR_L e m ρ b body ub h2 ha.2)
      · simp only [PI.toSem, hn, if_false, SI.elide, agreeI, Bool.and_eq_true] at ha ⊢
        obtain ⟨e1, e2⟩ := outBt_header "Loop" h1 ha.1
        simpa [e1, e2, Sem.ofList_toList, SI.ren] using Reads.loop (o := ⟨"Loop", [a]⟩) rfl (bridgeR_L e m ρ b body ub h2 ha.2)
  | .if1 o loc t el, ops, u, ho, ha => by
      obtain ⟨a, tb, ub, h1, h2, rfl, rfl⟩ := outI_if1_some ho
      simp only [PI.toSem, SI.elide, SL.elide, agreeI, agreeL, Bool.and_eq_true, Bool.and_true] at ha ⊢
      obtain ⟨e1, e2⟩ := outBt_header "If" h1 ha.1
      simpa [e1, e2, Sem.ofList_toList, SI.ren, SL.ren, SL.ofList] using
        Reads.if2 (o := ⟨"If", [a]⟩) rfl (bridgeR_L e m ρ t tb ub h2 ha.2) .nil
  | .if2 o loc t l2 f el, ops, u, ho, ha => by
      obtain ⟨a, tb, ub, fb, uf, h1, h2, h3, rfl, rfl⟩ := outI_if2_some ho
      simp only [PI.toSem, SI.elide, agreeI, Bool.and_eq_true] at ha ⊢
      obtain ⟨e1, e2⟩ := outBt_header "If" h1 ha.1.1
      simpa [e1, e2, Sem.ofList_toList, SI.ren] using
        Reads.if2 (o := ⟨"If", [a]⟩) rfl (bridgeR_L e m ρ t tb ub h2 ha.1.2) (bridgeR_L e m ρ f fb uf h3 ha.2)
theorem bridgeR_L (e : PEnv) (m : IdMaps) (ρ : Ren) : (l : PL) → ∀ (ops : List (Nat × Op)) (u : Bool),
    outL e m false l = some (ops, u) → agreeL e m ρ l.toSem.elide = true → Reads (ops.map (·.2)) (l.toSem.elide.ren ρ).toList
  | .nil, ops, u, ho, _ => by cases ho; exact .nil
  | .cons h t, ops, u, ho, ha => by
      have ihI := bridgeR_I e m ρ h
      have ihL := bridgeR_L e m ρ t
      rcases outL_cons_elide ho with ⟨o, loc, rfl, _, h2, he⟩ | ⟨o, loc, rfl, _, h1, he⟩ | ⟨o1, o2, h1, h2, rfl, _, he⟩ <;>
        rw [he] at ha ⊢
      · exact ihL ops u h2 ha
      · simp only [agreeL, Bool.and_true] at ha
        exact ihI ops true h1 ha
      · simp only [agreeL, Bool.and_eq_true] at ha
        rw [List.map_append]
        exact (ihI o1 false h1 ha.1).append (ihL o2 u h2 ha.2)
end

theorem bridge_I_all (e : PEnv) (m : IdMaps) (ρ : Ren) (i : PI) : BridgeI e m ρ i :=
  fun ops u rest p fs ho ha => bridgeR_I e m ρ i ops u ho ha rest p fs

theorem bridge_I (e : PEnv) (m : IdMaps) (ρ : Ren) : (i : PI) → i.isOp = false → BridgeI e m ρ i :=
  fun i _ => bridge_I_all e m ρ i

/-- what the round trip writes (`outL`; that it does is `C03.body_round_trip_in_source_terms`), read
    back, is the renumbered elided source tree -/
theorem output_reads_as_ren_elide (e : PEnv) (m : IdMaps) (ρ : Ren) (body : PL) (ops : List (Nat × Op)) (u : Bool)
    (ho : outL e m false body = some (ops, u)) (ha : agreeL e m ρ body.toSem.elide = true) :
    structureBody (ops.map (·.2) ++ [⟨"End", []⟩]) = some (body.toSem.elide.ren ρ) := by
  rw [(bridgeR_L e m ρ body ops u ho ha).body, Sem.ofList_toList]

mutual
theorem readR_I : (i : PI) → i.WF → Reads (i.flat.map (·.1)) [i.toSem]
  | .op o loc, hw => .leaf (isStructural_eq _ ▸ hw)
  | .blk o loc b el, hw => by
      have ih := readR_L b hw.2
      rcases hw.1 with hn | hn
      · simpa [PI.flat, opEnd, PI.toSem, hn, Sem.ofList_toList] using Reads.block hn ih
      · simpa [PI.flat, opEnd, PI.toSem, hn, Sem.ofList_toList] using Reads.loop hn ih
  | .if1 o loc t el, hw => by
      simpa [PI.flat, opEnd, PI.toSem, Sem.ofList_toList] using Reads.if1 hw.1 (readR_L t hw.2)
  | .if2 o loc t l2 e' el, hw => by
      simpa [PI.flat, opEnd, opElse, PI.toSem, Sem.ofList_toList] using
        Reads.if2 hw.1 (readR_L t hw.2.1) (readR_L e' hw.2.2)
theorem readR_L : (l : PL) → l.WF → Reads (l.flat.map (·.1)) l.toSem.toList
  | .nil, _ => .nil
  | .cons h t, hw => by
      simpa [PL.flat, PL.toSem, SL.toList] using (readR_I h hw.1).append (readR_L t hw.2)
end

theorem read_I : (i : PI) → i.WF → ∀ (rest : List Op) (p : PFr) (fs : List PFr),
    structureOps (i.flat.map (·.1) ++ rest) (p :: fs) = structureOps rest ({ p with acc := i.toSem :: p.acc } :: fs) :=
  readR_I

theorem source_reads_as_toSem (body : PL) (hw : body.WF) (endLoc : Nat) :
    structureBody ((body.flat ++ [(opEnd, endLoc)]).map (·.1)) = some body.toSem := by
  rw [List.map_append]
  exact ((readR_L body hw).body).trans (by rw [Sem.ofList_toList])

/-- `output_reads_as_ren_elide` with the source tree given as the interpreter's own reading `t` of
    the source operators -/
theorem round_trip_reads_as_ren_elide (e : PEnv) (m : IdMaps) (ρ : Ren) (body : PL) (hw : body.WF) (endLoc : Nat)
    (ops : List (Nat × Op)) (u : Bool) (ho : outL e m false body = some (ops, u))
    (t : SL) (ht : structureBody ((body.flat ++ [(opEnd, endLoc)]).map (·.1)) = some t)
    (ha : agreeL e m ρ t.elide = true) :
    structureBody (ops.map (·.2) ++ [⟨"End", []⟩]) = some (t.elide.ren ρ) := by
  rw [source_reads_as_toSem body hw endLoc] at ht
  cases ht
  exact output_reads_as_ren_elide e m ρ body ops u ho ha

def noRefs (args : List Arg) : Prop := ∀ a ∈ args, ∀ sp i, a ≠ Arg.ref sp i

theorem wrapOffsets_noRefs : ∀ (args : List Arg), noRefs args → wrapOffsets args = args
  | [], _ => rfl
  | x :: r, h => by
    have ih := wrapOffsets_noRefs r fun a ha => h a (List.mem_cons_of_mem _ ha)
    unfold wrapOffsets
    split
    · rename_i k _ heq
      exact absurd rfl (h (.ref "m" k) (by rw [heq]; simp) "m" k)
    · rename_i heq
      cases heq
      rw [ih]
    · rename_i heq
      cases heq

theorem ren_op_noRefs (ρ : Ren) (o : Op) (h : noRefs o.args) : ρ.op o = o := by
  have hno : ∀ sp i r, o.args ≠ .ref sp i :: r := fun sp i r e => h (.ref sp i) (by rw [e]; simp) sp i rfl
  unfold Ren.op
  split
  · split
    · exact (hno _ _ _ ‹_›).elim
    · rfl
  · split
    · split
      · exact (hno _ _ _ ‹_›).elim
      · rfl
    · split
      · split
        · exact (hno _ _ _ ‹_›).elim
        · rfl
      · rfl

theorem agree_of_noRefs (e : PEnv) (m : IdMaps) (ρ : Ren) (o : Op) (hs : structuralName o.name = false)
    (hc : o.name ≠ "Br" ∧ o.name ≠ "BrIf" ∧ o.name ≠ "BrTable" ∧ o.name ≠ "Return" ∧ o.name ≠ "Unreachable" ∧
      o.name ≠ "Nop") (hr : noRefs o.args) : agreeI e m ρ (.op o) = true := by
  have hnone : ∀ {P : String → Nat → Prop} sp i, Arg.ref sp i ∈ o.args → P sp i :=
    fun sp i hi => absurd rfl (hr _ hi sp i)
  simp [agreeI, hs, outLeafOps_plain e m o hc, outArgs, wrapOffsets_noRefs _ hr, pMapArgs_fix e _ hnone,
    mapArgs_fix m _ hnone, ren_op_noRefs ρ o hr]

end Walrus
