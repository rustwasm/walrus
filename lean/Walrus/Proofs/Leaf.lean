import Walrus.Proofs.LeafClass
import Walrus.Proofs.Lists
import Walrus.Agree

/-!
`outLeaf` and `transfers` as a `match` on `leafClass` (`outLeaf_eq`, `transfers_eq`; Proofs/LeafClass has
`leafEffect_eq`), and what `outLeaf` and `outArgs` answer on the operators the agreement proofs meet.
-/
namespace Walrus

theorem outLeaf_eq (e : PEnv) (m : IdMaps) (o : Op) (loc : Nat) :
    outLeaf e m o loc =
      match leafClass o.name with
      | .br => match labelsOf o with
        | [n] => some [(loc, ⟨"Br", [.ref "l" n]⟩)]
        | _ => none
      | .brIf => match labelsOf o with
        | [n] => some [(loc, ⟨"BrIf", [.ref "l" n]⟩)]
        | _ => none
      | .brTable => match (labelsOf o).reverse with
        | d :: ts => some [(loc, ⟨"BrTable", ts.reverse.map (Arg.ref "l") ++ [.ref "l" d]⟩)]
        | [] => none
      | .ret => (mapArgs m o.args).map fun a => [(loc, ⟨o.name, a⟩)]
      | .nop => some []
      | .plain => (outArgs e m o.args).map fun a => [(loc, ⟨o.name, a⟩)] :=
  leafClass_elim o.name _ _ _ _ _ _

theorem transfers_eq (n : String) :
    transfers n = match leafClass n with
      | .br => true | .brIf => false | .brTable => true | .ret => true | .nop => false | .plain => false := by
  have h := leafClass_spec n
  unfold transfers
  cases hc : leafClass n <;> simp only [hc] at h ⊢
  case br | brIf | brTable | nop => subst h; decide
  case ret => rcases h with h | h <;> simp [h]
  case plain => simp [h]

/-- the location of a surviving operator is carried along, nothing else depends on it -/
theorem outLeaf_eq_map (e : PEnv) (m : IdMaps) (o : Op) (loc : Nat) :
    outLeaf e m o loc = (outLeafOps e m o).map (·.map (loc, ·)) := by
  simp only [outLeafOps, outLeaf_eq]
  cases leafClass o.name <;> simp only []
  case br | brIf | brTable => split <;> rfl
  case nop => rfl
  case ret => cases mapArgs m o.args <;> rfl
  case plain => cases outArgs e m o.args <;> rfl

theorem transfers_nop {n : String} (h : n = "Nop") : transfers n = false := by simp [transfers, h]

theorem outLeaf_nop (e : PEnv) (m : IdMaps) (o : Op) (loc : Nat) (h : o.name = "Nop") :
    outLeaf e m o loc = some [] := by
  simp [outLeaf, h]

theorem outLeafOps_plain (e : PEnv) (m : IdMaps) (o : Op)
    (hc : o.name ≠ "Br" ∧ o.name ≠ "BrIf" ∧ o.name ≠ "BrTable" ∧ o.name ≠ "Return" ∧ o.name ≠ "Unreachable" ∧
      o.name ≠ "Nop") : outLeafOps e m o = (outArgs e m o.args).map fun a => [⟨o.name, a⟩] := by
  obtain ⟨h1, h2, h3, h4, h5, h6⟩ := hc
  simp [outLeafOps, outLeaf, h1, h2, h3, h4, h5, h6, Function.comp_def]

theorem outArgs_ref (e : PEnv) (m : IdMaps) (sp : String) (i : Nat) :
    outArgs e m [.ref sp i] = ((e.get sp i).bind (m.get sp)).map fun j => [.ref sp j] := by
  simp only [outArgs, wrapOffsets, pMapArgs]
  cases e.get sp i with
  | none => rfl
  | some id => simp only [Option.bind_some, mapArgs]; cases m.get sp id <;> rfl

end Walrus
