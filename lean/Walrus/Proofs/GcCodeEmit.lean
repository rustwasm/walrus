import Walrus.Proofs.GcEmit
import Walrus.Proofs.BodiesOK

/-!
After the GC pass the code section emits (C02): what a kept function names — its type, the entity
operands of the instructions its traversal reaches, the types of its blocks — are its successors in
the relation the pass scans, so they are used and have an index (`referent_has_index`); the rest is
the emission theorem for any keep-set (`emitCodeWith_isSome`).  Its hypothesis on the bodies follows
from the check the driver evaluates (`bodiesOK_sound`).
-/
namespace Walrus

theorem gc_code_section_emits (m : ModuleM) (g : GcInfo) (hg : mkGcInfo m = some g)
    (hlen : m.code.length = m.funcs.length) (hw : gcWF g = true) (hb : BodiesWF m g) :
    (emitCodeWith (codeOf m) g.pfs (gcKeep g m)).isSome = true := by
  obtain ⟨hp, _, hnif, _⟩ := mkGcInfo_spec m g hg
  apply emitCodeWith_isSome (codeOf m) g.pfs hp hb (gcKeep g m) (by simp [gcKeep])
  intro pf hpf hkept sp n hmem _ hy _
  -- the function is the `j`-th local one, it is used, and what it names are its successors
  obtain ⟨j, hj⟩ := List.getElem?_of_mem hpf
  have hid : pf.id = g.nif + j := by rw [(parseCode_id (codeOf m) g.pfs hp j pf hj).1, hnif]; rfl
  have hjlt := (List.getElem?_eq_some_iff.1 hj).1
  have hused : ("f", pf.id) ∈ usedSet g :=
    (mem_keptOf.1 (by simpa [gcKeep] using hkept : pf.id ∈ keptOf (usedSet g) "f" (g.nif + m.funcs.length))).2
  exact referent_has_index m g hg hlen hw ("f", pf.id) (sp, n) hused
    ((mem_entUniverse g "f" pf.id).2 (Or.inl ⟨rfl, by omega⟩))
    (by rw [gcSucc_local g pf.id pf (by omega) (by rw [hid, Nat.add_sub_cancel_left]; exact hj)]; exact hmem) hy []

theorem bodiesOK_sound (m : ModuleM) (g : GcInfo) (hg : mkGcInfo m = some g) (h : bodiesOK m g = true) :
    BodiesWF m g := by
  apply bodiesOKc_sound m g.pfs
  simpa only [bodiesOK, bodiesOKc, (mkGcInfo_spec m g hg).2.2.1] using h

end Walrus
