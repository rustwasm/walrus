import Walrus.Proofs.Module
import Walrus.Proofs.EmitTotal
import Walrus.Proofs.Locals
import Walrus.Gc

/-!
The type, function and code sections emit for every keep-set whose maps have an index for every
entity the kept bodies name (C02: `emitCodeWith_isSome`).  Emission of a parsed body fails only on a
lookup (`parsed_body_emits`); the lookups are those of the entities `refsOfBody` lists, of the function's
own type and of the locals, and `emit_locals` gives every local the body mentions a slot.
-/
namespace Walrus

theorem mem_insertSorted (x y : Nat) : ∀ (l : List Nat), y ∈ insertSorted x l ↔ y = x ∨ y ∈ l
  | [] => by simp [insertSorted]
  | a :: r => by
    simp only [insertSorted]
    split
    · simp
    · split
      · rename_i h1 h2; subst h2; simp
      · simp only [List.mem_cons, mem_insertSorted x y r]
        exact or_left_comm

theorem mem_usedLocals (evs : List EEv) (x : Nat) :
    x ∈ usedLocals evs ↔ ∃ e ∈ evs, ∃ op loc, e = .instr (.leaf op) loc ∧ Arg.ref "x" x ∈ op.args := by
  unfold usedLocals
  rw [mem_foldl_adds _ (fun e x => ∃ op loc, e = .instr (.leaf op) loc ∧ Arg.ref "x" x ∈ op.args)]
  · simp only [List.not_mem_nil, false_or]
  · intro acc e y
    split
    · rename_i op loc
      rw [mem_foldl_adds _ (fun a y => a = .ref "x" y)]
      · simp
      · intro acc a z
        split
        · rw [mem_insertSorted]; simp [or_comm, eq_comm]
        · rename_i hne
          simp only [iff_self_or]
          exact fun h => absurd h (hne z)
    · rename_i hne
      simp only [iff_self_or]
      rintro ⟨op, loc, rfl, _⟩
      exact absurd rfl (hne op loc)

/-- a local named by an instruction the traversal visits is among the used locals -/
theorem usedLocals_mem (evs : List EEv) (op : Op) (loc id : Nat) (he : EEv.instr (.leaf op) loc ∈ evs)
    (ha : Arg.ref "x" id ∈ op.args) : id ∈ usedLocals evs :=
  (mem_usedLocals evs id).2 ⟨_, he, op, loc, rfl, ha⟩

/-- the bodies of a code slice are well-nested, clean and parse in tree terms -/
def BodiesWFc (c : InCode) (pfs : List ParsedFunc) : Prop :=
  ∀ (k : Nat) (f : InFunc) (pf : ParsedFunc), c.funcs[k]? = some f → pfs[k]? = some pf →
    ∃ body endLoc is cs u, PL.WF body ∧ PL.Clean body ∧ f.ops = body.flat ++ [(opEnd, endLoc)] ∧
      expL (envOf c pf) [0] 1 false body = some (is, cs, u)

/-- the bodies of the module are well-nested, carry immediates only where the binary format has
    them, and parse (in tree terms: the recursive description `expL` answers) -/
def BodiesWF (m : ModuleM) (g : GcInfo) : Prop :=
  ∀ (k : Nat) (f : InFunc) (pf : ParsedFunc), (codeOf m).funcs[k]? = some f → g.pfs[k]? = some pf →
    ∃ body endLoc is cs u, PL.WF body ∧ PL.Clean body ∧ f.ops = body.flat ++ [(opEnd, endLoc)] ∧
      expL (envOf (codeOf m) pf) [0] 1 false body = some (is, cs, u)

theorem BodiesWF_iff (m : ModuleM) (g : GcInfo) : BodiesWF m g ↔ BodiesWFc (codeOf m) g.pfs := Iff.rfl

theorem penv_get_y (e : PEnv) (i n : Nat) (h : e.get "y" i = some n) : n ∈ e.types := by
  simp only [PEnv.get, show ¬ ("y" = "f") by decide, if_false, if_true] at h
  exact List.mem_of_getElem? h

theorem refsOfBody_leaf (seqs : List PSeq) (op : Op) (loc : Nat) (sp : String) (n : Nat)
    (hev : EEv.instr (.leaf op) loc ∈ (bodyEvents (PSeqs.toArena seqs) (arenaFuel (PSeqs.toArena seqs)) 0).2)
    (hmem : Arg.ref sp n ∈ op.args) (hx : sp ≠ "x") (hl : sp ≠ "l") : (sp, n) ∈ refsOfBody seqs := by
  simp only [refsOfBody, List.mem_flatMap]
  refine ⟨_, hev, ?_⟩
  simp only [List.mem_filterMap]
  exact ⟨.ref sp n, hmem, by simp [hx, hl]⟩

theorem refsOfBody_start (seqs : List PSeq) (s y : Nat)
    (hev : EEv.start s (.multi y) ∈ (bodyEvents (PSeqs.toArena seqs) (arenaFuel (PSeqs.toArena seqs)) 0).2) :
    ("y", y) ∈ refsOfBody seqs := by
  simp only [refsOfBody, List.mem_flatMap]
  exact ⟨_, hev, by simp⟩

/-- What the `Emit` visitor looks up on the events of a body are the locals the body uses and the entities
    `refsOfBody` lists; what the parse read is in range, so only entities in range are asked about. -/
theorem evOKp_of_refsOfBody (c : InCode) (pfs : List ParsedFunc) (k : Keep) (hid : "y" ∉ k.other.identity)
    (pf : ParsedFunc) (lmap : List (Nat × Nat))
    (hx : ∀ n ∈ usedLocals (bodyEvents (PSeqs.toArena pf.seqs) (arenaFuel (PSeqs.toArena pf.seqs)) 0).2,
      (assoc lmap n).isSome = true)
    (hk : ∀ sp n, (sp, n) ∈ refsOfBody pf.seqs →
      (sp = "f" → n < c.importedFuncs + c.funcs.length) → (sp = "y" → n < (distinctSigs c.sigs).length) →
      sp ∈ ["f", "t", "g", "m", "y", "d", "e"] → ((mapsOf c pfs k []).get sp n).isSome = true) :
    ∀ ev ∈ (bodyEvents (PSeqs.toArena pf.seqs) (arenaFuel (PSeqs.toArena pf.seqs)) 0).2,
      evOKp (envOf c pf) (mapsOf c pfs k lmap) ev := by
  intro ev hev
  cases ev with
  | instr i loc =>
    cases i with
    | leaf op =>
      intro sp n hmem hl hsp ⟨i, hi⟩
      by_cases hsx : sp = "x"
      · subst hsx
        exact mapsOf_get_local c pfs k _ n (hx n (usedLocals_mem _ op loc n hev hmem))
      · rw [mapsOf_get c pfs k _ sp n hsx]
        -- the nine spaces of `entSpaces` without "x" and "l" are the seven `hk` asks for
        have hsp' : sp ∈ ["f", "t", "g", "m", "y", "d", "e"] := by simpa [entSpaces, hsx, hl] using hsp
        refine hk sp n (refsOfBody_leaf _ op loc sp n hev hmem hsx hl) ?_ ?_ hsp'
        · rintro rfl
          simpa [PEnv.get, envOf] using List.mem_of_getElem? hi
        · rintro rfl
          exact dedupIds_lt c.sigs n (penv_get_y _ i n hi)
    | _ => trivial
  | start s ty =>
    cases ty with
    | multi y =>
      intro hy
      have := hk "y" y (refsOfBody_start _ s y hev) (by simp) (fun _ => dedupIds_lt c.sigs y hy) (by simp)
      simpa [mapsOf, IdMaps.get, hid] using this
    | _ => trivial
  | fin s l => trivial

theorem emitFunc_isSome (c : InCode) (pfs : List ParsedFunc) (hp : parseCode c = some pfs) (hb : BodiesWFc c pfs)
    (k : Keep) (hid : "y" ∉ k.other.identity) (j : Nat) (pf : ParsedFunc) (hpf : pfs[j]? = some pf)
    (hk : ∀ sp n, (sp, n) ∈ ("y", pf.ty) :: refsOfBody pf.seqs →
      (sp = "f" → n < c.importedFuncs + c.funcs.length) → (sp = "y" → n < (distinctSigs c.sigs).length) →
      sp ∈ ["f", "t", "g", "m", "y", "d", "e"] → ((mapsOf c pfs k []).get sp n).isSome = true) :
    (emitFunc c pfs k pf).isSome = true := by
  obtain ⟨hl, hspec⟩ := parseCode_spec c pfs hp
  have hj : j < c.funcs.length := by rw [← hl]; exact (List.getElem?_eq_some_iff.1 hpf).1
  obtain ⟨pf', hpf', _, hty, entryId, _, hbuild⟩ := hspec j _ (List.getElem?_eq_getElem hj)
  cases hpf.symm.trans hpf'
  obtain ⟨body, endLoc, is, cs, u, hwf, hcl, hops, hexp⟩ := hb j _ pf (List.getElem?_eq_getElem hj) hpf
  obtain ⟨t, ht⟩ : ∃ t, assoc (tyMapOf c k) pf.ty = some t := by
    have := hk "y" pf.ty List.mem_cons_self (by simp) (fun _ => dedupIds_lt c.sigs _ (List.mem_of_getElem? hty)) (by simp)
    exact Option.isSome_iff_exists.1 (by simpa [mapsOf, IdMaps.get, hid] using this)
  unfold emitFunc
  simp only [ht]
  -- the body emits up to the lookups, and `emit_locals` gives every local it uses a slot
  obtain ⟨seqs, hbb, himp⟩ := parsed_body_emits (mapsOf c pfs k (emitLocals pf.args _ _).2)
    (envOf c pf) entryId body hwf hcl endLoc is cs u hexp
  rw [← hops, hbuild] at hbb
  cases hbb
  obtain ⟨r, hr⟩ := Option.isSome_iff_exists.1 <| himp fun ev hev =>
    evOKp_of_refsOfBody c pfs k hid pf _ (fun n hn => Option.isSome_iff_exists.2 (local_map_total pf.args _ _ n (Or.inr hn)))
      (fun sp n h => hk sp n (List.mem_cons_of_mem _ h)) ev (List.mem_of_mem_tail hev)
  rw [hr]
  rfl

theorem emitCodeWith_isSome (c : InCode) (pfs : List ParsedFunc) (hp : parseCode c = some pfs)
    (hb : BodiesWFc c pfs) (k : Keep) (hid : "y" ∉ k.other.identity)
    (hk : ∀ pf ∈ pfs, k.funcs.contains pf.id = true → ∀ sp n, (sp, n) ∈ ("y", pf.ty) :: refsOfBody pf.seqs →
      (sp = "f" → n < c.importedFuncs + c.funcs.length) → (sp = "y" → n < (distinctSigs c.sigs).length) →
      sp ∈ ["f", "t", "g", "m", "y", "d", "e"] → ((mapsOf c pfs k []).get sp n).isSome = true) :
    (emitCodeWith c pfs k).isSome = true := by
  rw [emitCodeWith_eq, Option.isSome_map, mapM_isSome_iff]
  intro p hp'
  rw [mem_sortBy, List.mem_map] at hp'
  obtain ⟨pf, hpfm, rfl⟩ := hp'
  obtain ⟨hpfs, hkept⟩ := List.mem_filter.1 hpfm
  obtain ⟨j, hj⟩ := List.getElem?_of_mem hpfs
  exact emitFunc_isSome c pfs hp hb k hid j pf hj (hk pf hpfs hkept)

end Walrus
