import Walrus.Proofs.FuncSigs

/-!
The maps a code section is emitted with (`funcMapOf`, `tyMapOf`, `mapsOf`), for any keep-set: a
function or a type has an index exactly if it is kept (and exists), and the function map the other
sections build from the emitted code is the one the bodies were emitted with.  Without a pass
(`keepAll`) everything in range has an index.
-/
namespace Walrus

theorem tyMapOf_isSome_iff (c : InCode) (k : Keep) (tid : Nat) :
    (assoc (tyMapOf c k) tid).isSome = true ↔ k.types.contains tid = true ∧ tid < (distinctSigs c.sigs).length := by
  rw [assoc_isSome_iff, tyMapOf, keys_zipIdx_map (fun q : Nat × Sig => q.1) (fun _ => rfl)]
  constructor
  · intro h
    obtain ⟨q, hq, rfl⟩ := List.mem_map.1 h
    obtain ⟨hq, hk⟩ := List.mem_filter.1 (mem_sortBy.1 hq)
    exact ⟨hk, (List.getElem?_eq_some_iff.1 ((mem_idSigs c.sigs q).1 hq)).1⟩
  · rintro ⟨hk, hlt⟩
    exact List.mem_map.2 ⟨(tid, (distinctSigs c.sigs)[tid]), mem_sortBy.2 (List.mem_filter.2
      ⟨(mem_idSigs c.sigs _).2 (List.getElem?_eq_getElem hlt), hk⟩), rfl⟩

theorem mem_emitted_ids (pfs : List ParsedFunc) (k : Keep) (f : Nat) :
    f ∈ (emitted pfs k).map (·.1.id) ↔ k.funcs.contains f = true ∧ f ∈ pfs.map (·.id) := by
  simp only [List.mem_map, mem_sortBy, List.mem_filter]
  constructor
  · rintro ⟨q, ⟨pf, ⟨hpf, hk⟩, rfl⟩, rfl⟩
    exact ⟨hk, pf, hpf, rfl⟩
  · rintro ⟨hk, pf, hpf, rfl⟩
    exact ⟨_, ⟨pf, ⟨hpf, hk⟩, rfl⟩, rfl⟩

theorem funcMapOf_isSome_iff (c : InCode) (pfs : List ParsedFunc) (k : Keep) (f : Nat) :
    (assoc (funcMapOf c pfs k) f).isSome = true ↔
      k.funcs.contains f = true ∧ (f < c.importedFuncs ∨ f ∈ pfs.map (·.id)) := by
  rw [assoc_isSome_iff, funcMapOf, List.map_append, keys_zipIdx_map id (fun _ => rfl),
    keys_zipIdx_map (fun q : ParsedFunc × Nat => q.1.id) (fun _ => rfl), List.mem_append, mem_emitted_ids]
  simp only [List.map_id, List.mem_filter, List.mem_range]
  exact ⟨fun h => h.elim (fun h => ⟨h.2, Or.inl h.1⟩) fun h => ⟨h.1, Or.inr h.2⟩,
    fun ⟨hk, h⟩ => h.elim (fun h => Or.inl ⟨h, hk⟩) fun h => Or.inr ⟨hk, h⟩⟩

theorem funcMapOf_isSome (c : InCode) (pfs : List ParsedFunc) (hp : parseCode c = some pfs) (k : Keep) (f : Nat)
    (hr : f < c.importedFuncs + c.funcs.length) (hk : k.funcs.contains f = true) :
    (assoc (funcMapOf c pfs k) f).isSome = true := by
  rw [funcMapOf_isSome_iff, parseCode_ids c pfs hp]
  refine ⟨hk, ?_⟩
  by_cases hi : f < c.importedFuncs
  · exact Or.inl hi
  · have hle := Nat.le_of_not_lt hi
    exact Or.inr (List.mem_map.2 ⟨f - c.importedFuncs, List.mem_range.2 (Nat.sub_lt_left_of_lt_add hle hr),
      Nat.add_sub_cancel' hle⟩)

/-- the function map the other sections look functions up in (kept imports, then the emitted
    functions, numbered) is the one the bodies were emitted with -/
theorem emitCodeWith_funcMap (c : InCode) (pfs : List ParsedFunc) (k : Keep) (oc : OutCode)
    (h : emitCodeWith c pfs k = some oc) :
    ((List.range c.importedFuncs).filter k.funcs.contains).zipIdx.map (fun p => (p.1, p.2)) ++
      oc.funcs.zipIdx.map (fun p => (p.1.id, ((List.range c.importedFuncs).filter k.funcs.contains).length + p.2)) =
    funcMapOf c pfs k := by
  unfold funcMapOf
  simp only
  congr 1
  exact zipIdx_map_key (fun f : OutFunc => f.id) (fun q : ParsedFunc × Nat => q.1.id) _ _ _ 0 (emitCodeWith_ids c pfs k oc h)

/-- outside the locals (`"x"`) the maps do not depend on the function whose body is emitted -/
theorem mapsOf_get (c : InCode) (pfs : List ParsedFunc) (k : Keep) (lmap : List (Nat × Nat)) (sp : String) (n : Nat)
    (hx : sp ≠ "x") : (mapsOf c pfs k lmap).get sp n = (mapsOf c pfs k []).get sp n := by
  simp [mapsOf, IdMaps.get, hx]

theorem mapsOf_get_local (c : InCode) (pfs : List ParsedFunc) (k : Keep) (lmap : List (Nat × Nat)) (n : Nat)
    (h : (assoc lmap n).isSome = true) : ((mapsOf c pfs k lmap).get "x" n).isSome = true := by
  simp only [mapsOf, IdMaps.get]
  cases k.other.identity.contains "x"
  · simpa using h
  · rfl

theorem keepAll_imports (c : InCode) (n : Nat) :
    (List.range c.importedFuncs).filter (keepAll c n).funcs.contains = List.range c.importedFuncs := by
  refine List.filter_eq_self.2 fun i hi => ?_
  simp only [keepAll, List.contains_eq_mem, List.mem_range, decide_eq_true_eq]
  exact Nat.lt_add_right n (List.mem_range.1 hi)

/-- tables, globals, memories, data and element segments keep their indices -/
theorem keepAll_get_id (c : InCode) (pfs : List ParsedFunc) (n : Nat) (lmap : List (Nat × Nat)) (sp : String) (i : Nat)
    (h : sp ∈ ["t", "g", "m", "d", "e"]) : (mapsOf c pfs (keepAll c n) lmap).get sp i = some i := by
  simp [mapsOf, IdMaps.get, keepAll, h]

/-- without a pass every entity in range has an index in the maps the code is emitted with: functions
    and types because all are kept, the other spaces because they keep their indices -/
theorem keepAll_has_index (c : InCode) (pfs : List ParsedFunc) (hp : parseCode c = some pfs) (sp : String) (n : Nat)
    (hf : sp = "f" → n < c.importedFuncs + c.funcs.length) (hy : sp = "y" → n < (distinctSigs c.sigs).length)
    (hsp : sp ∈ ["f", "t", "g", "m", "y", "d", "e"]) (lmap : List (Nat × Nat)) :
    ((mapsOf c pfs (keepAll c pfs.length) lmap).get sp n).isSome = true := by
  have hl := (parseCode_spec c pfs hp).1
  by_cases h1 : sp = "f"
  · subst h1
    have := funcMapOf_isSome c pfs hp (keepAll c pfs.length) n (hf rfl) (by simpa [keepAll, hl] using hf rfl)
    simpa [mapsOf, IdMaps.get, keepAll] using this
  · by_cases h2 : sp = "y"
    · subst h2
      have := (tyMapOf_isSome_iff c (keepAll c pfs.length) n).2 ⟨by simpa [keepAll] using hy rfl, hy rfl⟩
      simpa [mapsOf, IdMaps.get, keepAll] using this
    · rw [keepAll_get_id c pfs _ lmap sp n (by simpa [h1, h2] using hsp)]
      rfl

end Walrus
