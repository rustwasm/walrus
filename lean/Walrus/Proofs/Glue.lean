import Walrus.Run
import Walrus.Rename

/-! The observation glue (instantiation, export script, exported state) commutes with a renumbering
    of the function indices that the non-code sections carry: exports, start, element items,
    `ref.func` in constant expressions. -/
namespace Walrus.Sem

theorem mapFOp_name (g : Nat → Nat) (o : Op) : (mapFOp g o).name = o.name := by
  unfold mapFOp; split
  · split <;> rfl
  · rfl

theorem constStep_mapF (g : Nat → Nat) (res : Nat → Option Nat) (gs : List V) (stk : Option (List V)) (o : Op) :
    constStep res gs stk (mapFOp g o) = constStep (fun f => res (g f)) gs stk o := by
  unfold constStep
  cases stk with
  | none => rfl
  | some stk =>
    simp only [mapFOp_name]
    by_cases h1 : o.name = "End"
    · simp [h1]
    · by_cases h2 : o.name = "GlobalGet"
      · have : mapFOp g o = o := by simp [mapFOp, h2]
        simp [h2, this]
      · by_cases h3 : o.name = "RefFunc"
        · obtain ⟨n, args⟩ := o
          simp only at h3; subst h3
          rcases args with _ | ⟨a, _ | ⟨b, r⟩⟩
          · simp [mapFOp]
          · cases a <;> simp [mapFOp]
          · simp [mapFOp]
        · have : mapFOp g o = o := by simp [mapFOp, h3]
          simp [h1, h2, h3, this]

theorem evalConst_mapF (g : Nat → Nat) (res : Nat → Option Nat) (gs : List V) (c : CExprM) :
    evalConst res gs (mapFC g c) = evalConst (fun f => res (g f)) gs c := by
  unfold evalConst mapFC
  simp only [List.foldl_map, constStep_mapF]

theorem elemItems_mapF (g : Nat → Nat) (res : Nat → Option Nat) (gs : List V) (e : ElemM) :
    elemItems res gs (mapFElem g e) = elemItems (fun f => res (g f)) gs e := by
  unfold elemItems mapFElem
  cases e.items with
  | funcs fs => simp only [List.mapM_map]; rfl
  | exprs ty es => simp only [List.mapM_map, Function.comp_def, evalConst_mapF]

theorem initGlobals_mapF (g : Nat → Nat) (res : Nat → Option Nat) (imp : List V) (gl : List (GlobalTyM × CExprM)) :
    initGlobals res imp (gl.map fun p => (p.1, mapFC g p.2)) = initGlobals (fun f => res (g f)) imp gl := by
  unfold initGlobals
  rw [List.foldl_map]
  simp only [evalConst_mapF]

theorem elemStep_mapF (g : Nat → Nat) (res : Nat → Option Nat) (acc : Except String Store) (p : ElemM × Nat) :
    elemStep res acc (Prod.map (mapFElem g) id p) = elemStep (fun f => res (g f)) acc p := by
  unfold elemStep
  cases acc with
  | error x => rfl
  | ok st =>
    simp only [mapFElem, Prod.map]
    cases p.1.mode with
    | active t off => simp only [evalConst_mapF, id]
    | passive => rfl
    | declared => rfl

theorem dataStep_mapF (g : Nat → Nat) (res : Nat → Option Nat) (acc : Except String Store) (p : DataM × Nat) :
    dataStep res acc (Prod.map (mapFData g) id p) = dataStep (fun f => res (g f)) acc p := by
  unfold dataStep
  cases acc with
  | error x => rfl
  | ok st =>
    simp only [mapFData, Prod.map]
    cases p.1.mode with
    | active mi off => simp only [evalConst_mapF, id]
    | passive => rfl

theorem runStart_mapF (g : Nat → Nat) (res : Nat → Option Nat) (inv : CallFn) (s : Option Nat) (st : Store) :
    runStart res inv (s.map g) st = runStart (fun f => res (g f)) inv s st := by
  cases s <;> rfl

theorem instantiate_mapF (g : Nat → Nat) (m : ModuleM) (res : Nat → Option Nat) (inv : CallFn) :
    instantiate (mapFM g m) res inv = instantiate m (fun f => res (g f)) inv := by
  have hd : (m.datas.map (mapFData g)).map (fun d => hexBytes d.bytes.toList) =
      m.datas.map (fun d => hexBytes d.bytes.toList) := by
    simp [mapFData]
  simp only [instantiate, mapFM, initGlobals_mapF, List.mapM_map, Function.comp_def, elemItems_mapF, hd,
    List.zipIdx_map, List.foldl_map, elemStep_mapF, dataStep_mapF, runStart_mapF]

theorem mapFExport_name (g : Nat → Nat) (e : String × String × Nat) : (mapFExport g e).1 = e.1 := by
  unfold mapFExport; split <;> rfl

theorem mapFExport_kind (g : Nat → Nat) (e : String × String × Nat) : (mapFExport g e).2.1 = e.2.1 := by
  unfold mapFExport; split <;> rfl

theorem sorted_map (φ : String × String × Nat → String × String × Nat) (hφ : ∀ e, (φ e).1 = e.1)
    (l : List (String × String × Nat)) : (l.map φ).foldr insertStr [] = (l.foldr insertStr []).map φ := by
  have ins : ∀ x l, insertStr (φ x) (l.map φ) = (insertStr x l).map φ := by
    intro x l
    induction l with
    | nil => rfl
    | cons y r ih =>
      simp only [List.map_cons, insertStr, hφ]
      split
      · simp
      · simp [ih]
  induction l with
  | nil => rfl
  | cons x r ih => simp only [List.map_cons, List.foldr_cons, ih, ins]

theorem runCalls_mapF (g : Nat → Nat) (res : Nat → Option Nat) (US : List Sig) (inv : CallFn) :
    ∀ (script : List (String × Nat × Nat)) (st : Store) (acc : List String),
      runCalls res US inv (script.map fun t => (t.1, g t.2.1, t.2.2)) st acc =
      runCalls (fun f => res (g f)) US inv script st acc
  | [], st, acc => rfl
  | (name, f, sd) :: rest, st, acc => by
      simp only [List.map_cons, runCalls]
      cases h : (res (g f)).bind fun u => (US[u]?).map fun sg => (u, sg) with
      | none => rfl
      | some p =>
        obtain ⟨u, sg⟩ := p
        simp only
        cases inv u _ st with
        | ok rs st' => exact runCalls_mapF g res US inv rest st' _
        | trap w st' => exact runCalls_mapF g res US inv rest st' _
        | oog => rfl
        | unsup w => rfl

/-- the exported state shows globals, memories and tables only: function exports do not enter it -/
theorem showState_mapF (g : Nat → Nat) (m : ModuleM) (US : List Sig) (st : Store) :
    showState (mapFM g m) US st = showState m US st := by
  simp only [showState, mapFM, sorted_map _ (mapFExport_name g), List.filterMap_map]
  congr 2
  funext e
  by_cases hf : e.2.1 = "f"
  · simp [Function.comp, mapFExport_kind, hf]
  · simp [Function.comp, mapFExport, hf]

/-- the exported functions in script order; on them `mapFExport g` renumbers unconditionally -/
theorem exportedFuncs_mapF (g : Nat → Nat) (m : ModuleM) :
    ((mapFM g m).exports.filter (·.2.1 = "f")).foldr insertStr [] =
      ((m.exports.filter (·.2.1 = "f")).foldr insertStr []).map fun e => (e.1, e.2.1, g e.2.2) := by
  rw [← sorted_map (fun e => (e.1, e.2.1, g e.2.2)) (fun _ => rfl)]
  congr 1
  simp only [mapFM, List.filter_map]
  rw [show ((fun e : String × String × Nat => decide (e.2.1 = "f")) ∘ mapFExport g) = fun e => decide (e.2.1 = "f") from
    funext fun e => by simp [mapFExport_kind]]
  apply List.map_congr_left
  intro e he
  have : e.2.1 = "f" := by simpa using (List.mem_filter.1 he).2
  simp [mapFExport, this]

theorem observeWith_mapF (g : Nat → Nat) (m : ModuleM) (res : Nat → Option Nat) (US : List Sig) (inv : CallFn)
    (seed rounds : Nat) :
    observeWith (mapFM g m) res US inv seed rounds = observeWith m (fun f => res (g f)) US inv seed rounds := by
  unfold observeWith
  rw [instantiate_mapF]
  cases instantiate m (fun f => res (g f)) inv with
  | fail w => rfl
  | ok st0 =>
    simp only [showState_mapF, exportedFuncs_mapF, List.zipIdx_map, List.map_map]
    rw [← runCalls_mapF g res, List.map_flatMap]
    simp only [List.map_map]
    rfl

end Walrus.Sem
