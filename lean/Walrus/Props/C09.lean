import Walrus.Par
import Walrus.Gen.ParSites

/-!
# C09 — parallel and serial builds agree under every schedule

Proved: for *every* schedule (any completion order of the per-function tasks) in which every task
completes, the indexed collect yields exactly the serial `map` and `any` yields the serial `any`; so
what the serial loop after the collect reports (the first error in index order) cannot depend on
the schedule.  Obligation on the generated table (`Gen/ParSites.lean`, regenerated from /repo on
every run): every `maybe_parallel!` site has one of these two consumer shapes, no other direct use
of rayon exists besides the accessor wrappers, and `src/` contains no unsafe code, mutable static or
interior mutability through which tasks could communicate.  Not proved (trusted, sampled by the
oracle): rayon itself and data-race freedom of safe Rust.
-/
namespace Walrus
namespace C09

variable {α β : Type}

theorem runSched_length (f : α → β) (xs : List α) (sched : List Nat) (slots : List (Option β)) :
    (runSched f xs sched slots).length = slots.length := by
  induction sched generalizing slots with
  | nil => rfl
  | cons i r ih =>
    simp only [runSched, List.foldl_cons] at ih ⊢
    rw [ih]
    split <;> simp

/-- one finished task fills its own slot -/
theorem runSched_single_get (f : α → β) (xs : List α) (slots : List (Option β)) (hl : slots.length = xs.length)
    (i j : Nat) (hj : j < xs.length) :
    (runSched f xs [i] slots)[j]? = if j = i then some (some (f xs[j])) else slots[j]? := by
  simp only [runSched, List.foldl_cons, List.foldl_nil]
  by_cases hji : j = i
  · subst hji
    simp [hl, hj]
  · cases xs[i]? <;> simp [hji, List.getElem?_set_ne (Ne.symm hji)]

theorem runSched_get (f : α → β) (xs : List α) (sched : List Nat) (slots : List (Option β))
    (hl : slots.length = xs.length) (j : Nat) (hj : j < xs.length) :
    (runSched f xs sched slots)[j]? =
      if j ∈ sched then some (some (f xs[j])) else slots[j]? := by
  induction sched generalizing slots with
  | nil => simp [runSched]
  | cons i r ih =>
    rw [show runSched f xs (i :: r) slots = runSched f xs r (runSched f xs [i] slots) from rfl,
      ih _ (by rw [runSched_length, hl]), runSched_single_get f xs slots hl i j hj]
    by_cases hm : j ∈ r <;> by_cases hji : j = i <;> simp [hm, hji]

/-- **Indexed collect is schedule independent.** Whatever order the tasks complete in, as long
    as every task completes, the collected vector is the serial `map`. -/
theorem parMapCollect_eq (f : α → β) (xs : List α) (sched : List Nat)
    (hall : ∀ j, j < xs.length → j ∈ sched) :
    parMapCollect f xs sched = xs.map (fun x => some (f x)) := by
  apply List.ext_getElem?
  intro j
  by_cases hj : j < xs.length
  · rw [parMapCollect, runSched_get f xs sched _ (by simp) j hj]
    simp [hall j hj, hj]
  · have h1 : (parMapCollect f xs sched).length = xs.length := by
      simp [parMapCollect, runSched_length]
    rw [List.getElem?_eq_none (by omega), List.getElem?_eq_none (by simp; omega)]

/-- `any` is schedule independent -/
theorem schedAny_eq (p : α → Bool) (xs : List α) (sched : List Nat)
    (hall : ∀ j, j < xs.length → j ∈ sched) :
    schedAny p xs sched = xs.any p := by
  unfold schedAny
  apply Bool.eq_iff_iff.2
  simp only [List.any_eq_true]
  constructor
  · rintro ⟨i, _, hi⟩
    cases hx : xs[i]? with
    | none => simp [hx] at hi
    | some x =>
      simp only [hx] at hi
      exact ⟨x, List.mem_of_getElem? hx, hi⟩
  · rintro ⟨x, hx, hp⟩
    obtain ⟨i, hi, rfl⟩ := List.getElem_of_mem hx
    exact ⟨i, hall i hi, by simp [hi, hp]⟩

/-- two complete schedules collect the same vector of results, so the error the serial loop after the
    collect finds in it (`firstError`) does not depend on the schedule -/
theorem firstError_eq {ε : Type} (f : α → Except ε β) (xs : List α) (s1 s2 : List Nat)
    (h1 : ∀ j, j < xs.length → j ∈ s1) (h2 : ∀ j, j < xs.length → j ∈ s2) :
    parMapCollect f xs s1 = parMapCollect f xs s2 := by
  rw [parMapCollect_eq f xs s1 h1, parMapCollect_eq f xs s2 h2]

def siteOK (s : Gen.ParSite) : Bool :=
  s.chain == ["any"] || s.chain == ["map", "collect::<Vec<_>>"]

/-- every parallel site is an indexed map-collect or an `any`; none was missed by the extraction -/
theorem par_sites_ok :
    Gen.parSites.all siteOK = true ∧ Gen.parSites.length = Gen.parMacroUses ∧ Gen.parseFailures = [] := by
  decide +kernel

/-- the only direct uses of rayon are the accessor wrappers (`par_iter*` of the function arena and
    of `TombstoneArena`), which only `map`/`filter`/`filter_map` -/
theorem rayon_direct_whitelist :
    Gen.rayonDirect = ["src/module/functions/mod.rs:par_iter", "src/module/functions/mod.rs:par_iter",
      "src/module/functions/mod.rs:par_iter_mut", "src/module/functions/mod.rs:par_iter_mut",
      "src/tombstone_arena.rs:par_iter", "src/tombstone_arena.rs:par_iter_mut"] := rfl

/-- nothing in `src/` lets two tasks communicate behind the type system -/
theorem no_shared_state : Gen.sharedStateHazards = [] := rfl

/-- non-vacuity: a reversed and an interleaved schedule of four tasks -/
example : parMapCollect (· + 10) [1, 2, 3, 4] [3, 2, 1, 0] = [some 11, some 12, some 13, some 14] ∧
          parMapCollect (· + 10) [1, 2, 3, 4] [2, 0, 3, 1, 2] = [some 11, some 12, some 13, some 14] := by decide +kernel

end C09
end Walrus
