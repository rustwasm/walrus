import Walrus.CodeMaps
import Walrus.Proofs.Lists

/-!
What `parseCode` and `emitCodeWith` do to types and function ids (C04 signatures, C19 function map),
for any keep-set: a type index names the same signature before de-duplication, after it, and in the
sorted type section; function ids are `importedFuncs + position`, and the emitted functions are the
kept ones in another order.
-/
namespace Walrus

theorem mem_distinctSigs_iff (sigs : List Sig) (s : Sig) : s ∈ distinctSigs sigs ↔ s ∈ sigs := by
  rw [distinctSigs, mem_foldl_distinct]; simp

theorem distinctSigs_nodup (sigs : List Sig) : (distinctSigs sigs).Nodup :=
  nodup_foldl_distinct sigs [] List.nodup_nil

theorem dedupIds_some (sigs : List Sig) (i id : Nat) (h : (dedupIds sigs)[i]? = some id) :
    ∃ s, sigs[i]? = some s ∧ (distinctSigs sigs)[id]? = some s := by
  simp only [dedupIds, List.getElem?_map, Option.map_eq_some_iff] at h
  obtain ⟨s, hs, rfl⟩ := h
  have hlt : (distinctSigs sigs).findIdx (· == s) < (distinctSigs sigs).length :=
    List.findIdx_lt_length_of_exists ⟨s, (mem_distinctSigs_iff sigs s).2 (List.mem_of_getElem? hs), by simp⟩
  refine ⟨s, hs, ?_⟩
  rw [List.getElem?_eq_getElem hlt]
  simpa using List.findIdx_getElem (w := hlt)

theorem dedupIds_lt (sigs : List Sig) (n : Nat) (h : n ∈ dedupIds sigs) : n < (distinctSigs sigs).length := by
  obtain ⟨i, hi⟩ := List.getElem?_of_mem h
  obtain ⟨s, _, hs⟩ := dedupIds_some sigs i n hi
  exact (List.getElem?_eq_some_iff.1 hs).1

theorem dedupIds_get (sigs : List Sig) (t : Nat) (h : t < sigs.length) :
    ∃ tid, (dedupIds sigs)[t]? = some tid ∧ tid < (distinctSigs sigs).length := by
  have ht : t < (dedupIds sigs).length := by simpa [dedupIds] using h
  exact ⟨_, List.getElem?_eq_getElem ht, dedupIds_lt sigs _ (List.getElem_mem ht)⟩

/-- TypeId with its signature, for every distinct signature -/
abbrev idSigs (sigs : List Sig) : List (Nat × Sig) := (distinctSigs sigs).zipIdx.map fun p => (p.2, p.1)

theorem mem_idSigs (sigs : List Sig) (p : Nat × Sig) : p ∈ idSigs sigs ↔ (distinctSigs sigs)[p.1]? = some p.2 := by
  rw [idSigs, List.mem_map]
  constructor
  · rintro ⟨q, hq, rfl⟩; exact List.mem_zipIdx_iff_getElem?.1 hq
  · intro h; exact ⟨(p.2, p.1), List.mem_zipIdx_iff_getElem?.2 h, rfl⟩

/-- without a pass every type is kept -/
theorem idSigs_filter_all (sigs : List Sig) :
    (idSigs sigs).filter (fun p => (List.range (distinctSigs sigs).length).contains p.1) = idSigs sigs := by
  refine List.filter_eq_self.2 fun p hp => ?_
  have := (List.getElem?_eq_some_iff.1 ((mem_idSigs sigs p).1 hp)).1
  simpa using this

theorem envOf_mk (c : InCode) (id tid : Nat) (args lids : List Nat) (tys : List String) (seqs : List PSeq)
    (hl : lids.length ≤ tys.length) :
    envOf c ⟨id, tid, args, lids.zip tys, seqs⟩ =
      { funcs := List.range (c.importedFuncs + c.funcs.length), types := dedupIds c.sigs, locals := lids, sigs := c.sigs } := by
  simp only [envOf]
  congr 1
  exact List.map_fst_zip hl

/-- `entryId`: the type of a function's entry block is allocated beyond the module's types -/
theorem parseCode_go_spec (c : InCode) (fs : List InFunc) : ∀ (k nextLocal : Nat) (entrySeen : List (List String))
    (acc : List ParsedFunc) (res : List ParsedFunc),
    parseCode.go c (dedupIds c.sigs) (distinctSigs c.sigs).length (List.range (c.importedFuncs + c.funcs.length))
      fs k nextLocal entrySeen acc = some res →
    ∃ tail, res = acc.reverse ++ tail ∧ tail.length = fs.length ∧
      ∀ j (f : InFunc), fs[j]? = some f → ∃ pf, tail[j]? = some pf ∧ pf.id = c.importedFuncs + k + j ∧
        (dedupIds c.sigs)[f.tyIdx]? = some pf.ty ∧
        ∃ entryId, (distinctSigs c.sigs).length ≤ entryId ∧ buildBody (envOf c pf) entryId f.ops = some pf.seqs := by
  induction fs with
  | nil =>
    intro k nl es acc res h
    cases h
    exact ⟨[], by simp, rfl, fun j f hf => by simp at hf⟩
  | cons f r ih =>
    intro k nl es acc res h
    simp only [parseCode.go] at h
    split at h
    · rename_i ps rs tid hs ht
      split at h
      · cases h
      · rename_i seqs hb
        obtain ⟨entryId, hent, hb⟩ : ∃ e, (distinctSigs c.sigs).length ≤ e ∧ buildBody _ e f.ops = some seqs :=
          ⟨_, by split <;> simp, hb⟩
        generalize hpf : ParsedFunc.mk (c.importedFuncs + k) tid _ _ seqs = pf at h
        obtain ⟨tail, rfl, hl, ht'⟩ := ih (k + 1) _ _ _ res h
        refine ⟨pf :: tail, by simp, by simp [hl], fun j g hg => ?_⟩
        cases j with
        | zero =>
          cases (Option.some.inj hg)
          exact ⟨pf, rfl, by rw [← hpf]; rfl, by rw [← hpf]; exact ht, entryId, hent,
            by rw [← hpf, envOf_mk _ _ _ _ _ _ _ (by simp)]; exact hb⟩
        | succ j =>
          obtain ⟨pf', hpf', hid, hrest⟩ := ht' j g (by rwa [List.getElem?_cons_succ] at hg)
          exact ⟨pf', by rwa [List.getElem?_cons_succ], hid.trans (Nat.add_right_comm _ 1 j), hrest⟩
    · cases h

theorem parseCode_spec (c : InCode) (pfs : List ParsedFunc) (h : parseCode c = some pfs) :
    pfs.length = c.funcs.length ∧
    ∀ k (f : InFunc), c.funcs[k]? = some f → ∃ pf, pfs[k]? = some pf ∧ pf.id = c.importedFuncs + k ∧
      (dedupIds c.sigs)[f.tyIdx]? = some pf.ty ∧
      ∃ entryId, (distinctSigs c.sigs).length ≤ entryId ∧ buildBody (envOf c pf) entryId f.ops = some pf.seqs := by
  obtain ⟨tail, rfl, hl, ht⟩ := parseCode_go_spec c c.funcs 0 0 [] [] pfs h
  exact ⟨hl, ht⟩  -- `[].reverse ++ tail` and `c.importedFuncs + 0` compute

theorem parseCode_ids (c : InCode) (pfs : List ParsedFunc) (h : parseCode c = some pfs) :
    pfs.map (·.id) = (List.range c.funcs.length).map (c.importedFuncs + ·) := by
  obtain ⟨hlen, hspec⟩ := parseCode_spec c pfs h
  apply List.ext_getElem?
  intro k
  by_cases hk : k < c.funcs.length
  · obtain ⟨pf, hpf, hid, _⟩ := hspec k c.funcs[k] (by simp [hk])
    simp [hk, hpf, hid]
  · simp [hk, hlen]

theorem parseCode_id (c : InCode) (pfs : List ParsedFunc) (h : parseCode c = some pfs) (j : Nat) (pf : ParsedFunc)
    (hj : pfs[j]? = some pf) : pf.id = c.importedFuncs + j ∧ j < c.funcs.length := by
  obtain ⟨hlen, hspec⟩ := parseCode_spec c pfs h
  have hlt : j < c.funcs.length := hlen ▸ (List.getElem?_eq_some_iff.1 hj).1
  obtain ⟨pf', hpf', hid, -⟩ := hspec j c.funcs[j] (List.getElem?_eq_getElem hlt)
  cases hj.symm.trans hpf'
  exact ⟨hid, hlt⟩

/-- the kept functions with their sizes, in emission order -/
abbrev emitted (pfs : List ParsedFunc) (k : Keep) : List (ParsedFunc × Nat) :=
  sortBy (fun a b => a.2 > b.2 || (a.2 == b.2 && a.1.id ≤ b.1.id))
    ((pfs.filter (fun f => k.funcs.contains f.id)).map fun f => (f, funcSize (PSeqs.toArena f.seqs) 0))

/-- what `emitCodeWith` writes for one kept function -/
def emitFunc (c : InCode) (pfs : List ParsedFunc) (k : Keep) (f : ParsedFunc) : Option OutFunc :=
  let ar := PSeqs.toArena f.seqs
  let used := usedLocals (bodyEvents ar (arenaFuel ar) 0).2
  let tyOf := fun l => match f.localTys.find? (·.1 = l) with | some q => q.2 | none => "?"
  let (decls, lmap) := emitLocals f.args tyOf used
  match emitBodyMarks (mapsOf c pfs k lmap) ar 0, assoc (tyMapOf c k) f.ty with
  | some (ops, marks), some t => some ⟨t, decls, ops, f.id, marks, lmap, used⟩
  | _, _ => none

theorem emitCodeWith_eq (c : InCode) (pfs : List ParsedFunc) (k : Keep) : emitCodeWith c pfs k =
    ((emitted pfs k).mapM fun p => emitFunc c pfs k p.1).map fun fs =>
      ⟨(sortBy (fun a b => sigLe a.2 b.2) ((idSigs c.sigs).filter fun p => k.types.contains p.1)).map (·.2), fs,
       (emitted pfs k).map fun p => p.1.id - c.importedFuncs⟩ := by
  rfl  -- the tactic, not the term: elaborating the term `rfl` unifies the two sides twice

theorem emitFunc_some (c : InCode) (pfs : List ParsedFunc) (k : Keep) (pf : ParsedFunc) (f : OutFunc)
    (h : emitFunc c pfs k pf = some f) : f.id = pf.id ∧ assoc (tyMapOf c k) pf.ty = some f.tyIdx := by
  unfold emitFunc at h
  simp only at h
  split at h
  · rename_i ht; cases h; exact ⟨rfl, ht⟩
  · cases h

theorem emitCodeWith_some (c : InCode) (pfs : List ParsedFunc) (k : Keep) (oc : OutCode)
    (h : emitCodeWith c pfs k = some oc) :
    oc.sigs = (sortBy (fun a b => sigLe a.2 b.2) ((idSigs c.sigs).filter fun p => k.types.contains p.1)).map (·.2) ∧
    (emitted pfs k).mapM (fun p => emitFunc c pfs k p.1) = some oc.funcs := by
  rw [emitCodeWith_eq, Option.map_eq_some_iff] at h
  obtain ⟨fs, hfs, rfl⟩ := h
  exact ⟨rfl, hfs⟩

theorem emitCodeWith_ids (c : InCode) (pfs : List ParsedFunc) (k : Keep) (oc : OutCode)
    (h : emitCodeWith c pfs k = some oc) : oc.funcs.map (·.id) = (emitted pfs k).map (·.1.id) :=
  mapM_some_map (emitCodeWith_some c pfs k oc h).2 (·.1.id) (·.id) fun p f h => (emitFunc_some c pfs k p.1 f h).1

theorem emitCodeWith_ids_perm (c : InCode) (pfs : List ParsedFunc) (k : Keep) (oc : OutCode)
    (h : emitCodeWith c pfs k = some oc) :
    (oc.funcs.map (·.id)).Perm ((pfs.filter fun f => k.funcs.contains f.id).map (·.id)) := by
  rw [emitCodeWith_ids c pfs k oc h]
  refine ((sortBy_perm _ _).map _).trans ?_
  rw [List.map_map]
  exact List.Perm.refl _

theorem keepAll_funcs (c : InCode) (pfs : List ParsedFunc) (hp : parseCode c = some pfs) :
    pfs.filter (fun f => (keepAll c pfs.length).funcs.contains f.id) = pfs := by
  refine List.filter_eq_self.2 fun pf hpf => ?_
  obtain ⟨j, hj⟩ := List.getElem?_of_mem hpf
  have := parseCode_id c pfs hp j pf hj
  have := (parseCode_spec c pfs hp).1
  simp only [keepAll, List.contains_eq_mem, List.mem_range, decide_eq_true_eq]
  omega

theorem emitCode_ids_perm (c : InCode) (pfs : List ParsedFunc) (oc : OutCode)
    (hp : parseCode c = some pfs) (he : emitCode c pfs = some oc) :
    (oc.funcs.map (·.id)).Perm ((List.range c.funcs.length).map (c.importedFuncs + ·)) := by
  have := emitCodeWith_ids_perm c pfs _ oc he
  rwa [keepAll_funcs c pfs hp, parseCode_ids c pfs hp] at this

/-- the function ids of the emitted code section are pairwise distinct -/
theorem emitCode_ids_nodup (c : InCode) (pfs : List ParsedFunc) (oc : OutCode)
    (hp : parseCode c = some pfs) (he : emitCode c pfs = some oc) : (oc.funcs.map (·.id)).Nodup := by
  rw [(emitCode_ids_perm c pfs oc hp he).nodup_iff, ← List.range'_eq_map_range]
  exact List.nodup_range'

theorem emitCode_sigs (c : InCode) (pfs : List ParsedFunc) (oc : OutCode) (h : emitCode c pfs = some oc) :
    oc.sigs = (sortBy (fun a b => sigLe a.2 b.2) (idSigs c.sigs)).map (·.2) := by
  rw [(emitCodeWith_some c pfs _ oc h).1]
  exact congrArg (fun l => (sortBy _ l).map _) (idSigs_filter_all c.sigs)

/-- a type index of the input, sent through type de-duplication (`dedupIds`) and the type map of an
    emission that keeps the types `l`, names the same signature in the emitted type section -/
theorem tyIdx_keeps_signature (sigs : List Sig) (l : List (Nat × Sig)) (hl : ∀ p ∈ l, p ∈ idSigs sigs) (t t' : Nat)
    (h : ((dedupIds sigs)[t]?).bind (assoc ((sortBy (fun a b => sigLe a.2 b.2) l).zipIdx.map fun p => (p.1.1, p.2))) = some t') :
    ∃ sg, sigs[t]? = some sg ∧ ((sortBy (fun a b => sigLe a.2 b.2) l).map (·.2))[t']? = some sg := by
  obtain ⟨id, hid, ht'⟩ := Option.bind_eq_some_iff.1 h
  obtain ⟨sg, hsg, hd⟩ := dedupIds_some sigs t id hid
  -- the type map sends a TypeId to the place of its own signature in the sorted type section
  obtain ⟨j, p, hp, rfl, rfl⟩ := assoc_zipIdx_get (fun p : Nat × Sig => p.1) (fun x => x) ht'
  have hs := (mem_idSigs sigs p).1 (hl p (mem_sortBy.1 (List.mem_of_getElem? hp)))
  rw [hd] at hs
  exact ⟨sg, hsg, by simp [hp, Option.some.inj hs]⟩

/-- a type index of the input, sent through type de-duplication (`dedupIds`) and the sorted type
    section (`tyMap`), names the same signature in the output's type section -/
theorem type_index_keeps_signature (sigs : List Sig) (t t' : Nat)
    (h : ((dedupIds sigs)[t]?).bind (assoc ((sortBy (fun a b => sigLe a.2 b.2)
          ((distinctSigs sigs).zipIdx.map fun p => (p.2, p.1))).zipIdx.map (fun p => (p.1.1, p.2)))) = some t') :
    ∃ sg, sigs[t]? = some sg ∧
      ((sortBy (fun a b => sigLe a.2 b.2) ((distinctSigs sigs).zipIdx.map fun p => (p.2, p.1))).map (·.2))[t']? = some sg :=
  tyIdx_keeps_signature sigs (idSigs sigs) (fun _ hp => hp) t t' h

/-- every emitted function has the signature of the input function it came from (identified by
    its id = imported functions + position in the input): through type de-duplication, type
    sorting and the size-sorted function order, whatever the emission keeps -/
theorem emitted_function_keeps_signature (c : InCode) (pfs : List ParsedFunc) (k : Keep) (oc : OutCode)
    (hp : parseCode c = some pfs) (he : emitCodeWith c pfs k = some oc) (j : Nat) (f : OutFunc)
    (hj : oc.funcs[j]? = some f) :
    ∃ i inF sg, c.funcs[i]? = some inF ∧ f.id = c.importedFuncs + i ∧
      c.sigs[inF.tyIdx]? = some sg ∧ oc.sigs[f.tyIdx]? = some sg := by
  obtain ⟨hsigs, hfs⟩ := emitCodeWith_some c pfs k oc he
  obtain ⟨p, hp', hemit⟩ := mapM_some_get_out hfs j f hj
  obtain ⟨hid, hty⟩ := emitFunc_some c pfs k p.1 f hemit
  -- `p.1` is the `i`-th parsed function
  have hmem := List.mem_of_getElem? hp'
  rw [mem_sortBy, List.mem_map] at hmem
  obtain ⟨pf, hpf, rfl⟩ := hmem
  obtain ⟨i, hi⟩ := List.getElem?_of_mem (List.mem_filter.1 hpf).1
  obtain ⟨hlen, hspec⟩ := parseCode_spec c pfs hp
  have hilt : i < c.funcs.length := hlen ▸ (List.getElem?_eq_some_iff.1 hi).1
  obtain ⟨pf', hpf', hid', hty', _⟩ := hspec i c.funcs[i] (by simp [hilt])
  cases hi.symm.trans hpf'
  obtain ⟨sg, h1, h2⟩ := tyIdx_keeps_signature c.sigs _ (fun p hp => (List.mem_filter.1 hp).1) c.funcs[i].tyIdx f.tyIdx
    (by rw [hty', Option.bind_some]; exact hty)
  exact ⟨i, c.funcs[i], sg, by simp [hilt], hid.trans hid', h1, hsigs ▸ h2⟩

end Walrus
