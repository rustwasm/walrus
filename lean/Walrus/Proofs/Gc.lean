import Walrus.Gc
import Walrus.Proofs.Lists

/-!
The used set of the GC pass (C07, C06, C02): the worklist closure computes exactly the set reachable from
the roots (`closure_is_reach`); exports, the start function and custom-section roots are roots; and,
for a module on which the worklist finished, `usedSet` is that reachable set plus at most the residue
memory, contains the roots and is closed under the edges the pass scans.  Last, what the sweep keeps
of an index space (`keptOf`) and where its compaction map answers.
-/
namespace Walrus

inductive Reach (succ : Ent → List Ent) (roots : List Ent) : Ent → Prop
  | root (x) : x ∈ roots → Reach succ roots x
  | step (x y) : Reach succ roots x → y ∈ succ x → Reach succ roots y

/-- invariant of the worklist -/
structure WInv (succ : Ent → List Ent) (roots todo visited : List Ent) : Prop where
  roots_in : ∀ r ∈ roots, r ∈ visited ∨ r ∈ todo
  closed : ∀ x ∈ visited, ∀ y ∈ succ x, y ∈ visited ∨ y ∈ todo
  sound : ∀ x, (x ∈ visited ∨ x ∈ todo) → Reach succ roots x

/-- One iteration keeps the invariant.  Only membership in the new stack `T` and visited set `V` matters:
    `V` gains at most `x`, and `V` and `T` together gain exactly the successors of `x`. -/
theorem WInv.step {succ : Ent → List Ent} {roots : List Ent} {x : Ent} {todo visited T V : List Ent}
    (h : WInv succ roots (x :: todo) visited) (hV : ∀ z ∈ V, z ∈ visited ∨ z = x)
    (hS : ∀ z, z ∈ V ∨ z ∈ T ↔ (z ∈ visited ∨ z ∈ x :: todo) ∨ z ∈ succ x) : WInv succ roots T V where
  roots_in r hr := (hS r).2 (Or.inl (h.roots_in r hr))
  closed z hz y hy := (hS y).2 <| (hV z hz).elim (fun hz => Or.inl (h.closed z hz y hy)) fun e => Or.inr (e ▸ hy)
  sound z hz := ((hS z).1 hz).elim (h.sound z) (Reach.step x z (h.sound x (Or.inr List.mem_cons_self)))

theorem winv_step (succ : Ent → List Ent) (roots : List Ent) (x : Ent) (todo visited : List Ent)
    (h : WInv succ roots (x :: todo) visited) :
    WInv succ roots
      (((succ x).filter fun y => !(visited.contains y) && !(todo.contains y) && y != x).eraseDups ++ todo)
      (if visited.contains x then visited else visited ++ [x]) := by
  have hV : ∀ z, z ∈ (if visited.contains x then visited else visited ++ [x]) ↔ z ∈ visited ∨ z = x := fun z => by
    split
    · rename_i hc
      exact ⟨Or.inl, fun h => h.elim id fun e => e ▸ by simpa using hc⟩
    · simp
  refine h.step (fun z => (hV z).1) fun z => ?_
  rw [hV]
  simp only [List.mem_append, List.mem_eraseDups, List.mem_filter, List.mem_cons, Bool.and_eq_true,
    Bool.not_eq_eq_eq_not, Bool.not_true, List.contains_eq_mem, decide_eq_false_iff_not, bne_iff_ne, ne_eq]
  constructor
  · rintro ((hv | hx) | ⟨hs, -⟩ | ht)
    · exact Or.inl (Or.inl hv)
    · exact Or.inl (Or.inr (Or.inl hx))
    · exact Or.inr hs
    · exact Or.inl (Or.inr (Or.inr ht))
  · rintro ((hv | hx | ht) | hs)
    · exact Or.inl (Or.inl hv)
    · exact Or.inl (Or.inr hx)
    · exact Or.inr (Or.inr ht)
    · by_cases hv : z ∈ visited; · exact Or.inl (Or.inl hv)
      by_cases hx : z = x; · exact Or.inl (Or.inr hx)
      by_cases ht : z ∈ todo; · exact Or.inr (Or.inr ht)
      exact Or.inr (Or.inl ⟨hs, ⟨hv, ht⟩, hx⟩)

theorem winv_run (succ : Ent → List Ent) (roots : List Ent) (fuel : Nat) (todo visited : List Ent)
    (h : WInv succ roots todo visited) :
    WInv succ roots (closureSt succ fuel todo visited).1 (closureSt succ fuel todo visited).2 := by
  induction fuel generalizing todo visited with
  | zero => cases todo <;> exact h
  | succ n ih =>
    cases todo with
    | nil => exact h
    | cons x t =>
      simp only [closureSt]
      exact ih _ _ (winv_step succ roots x t visited h)

theorem winv_init (succ : Ent → List Ent) (roots : List Ent) : WInv succ roots roots [] :=
  ⟨fun _ hr => Or.inr hr, fun _ hx => absurd hx List.not_mem_nil,
    fun x hx => hx.elim (fun h => absurd h List.not_mem_nil) (Reach.root x)⟩

/-- `Used::new`'s worklist computes reachability: when it stops with an empty stack, the visited set is
    exactly the set reachable from the roots -/
theorem closure_is_reach (succ : Ent → List Ent) (roots : List Ent) (fuel : Nat)
    (hdone : (closureSt succ fuel roots []).1 = []) :
    ∀ x, x ∈ closure succ fuel roots [] ↔ Reach succ roots x := by
  have inv := winv_run succ roots fuel roots [] (winv_init succ roots)
  rw [hdone] at inv
  intro x
  unfold closure
  constructor
  · intro hx; exact inv.sound x (Or.inl hx)
  · intro hr
    induction hr with
    | root y hy => exact (inv.roots_in y hy).resolve_right List.not_mem_nil
    | step y z _ hz ih => exact (inv.closed y ih z hz).resolve_right List.not_mem_nil

theorem export_mem_gcRoots (g : GcInfo) (e : String × String × Nat) (he : e ∈ g.m.exports) :
    (e.2.1, e.2.2) ∈ gcRoots g := by
  simp only [gcRoots, List.mem_append, List.mem_map]
  exact Or.inl (Or.inl (Or.inl (Or.inl ⟨e, he, rfl⟩)))

theorem start_mem_gcRoots (g : GcInfo) (s : Nat) (hs : g.m.start = some s) : ("f", s) ∈ gcRoots g := by
  simp only [gcRoots, List.mem_append, List.mem_map]
  exact Or.inl (Or.inl (Or.inl (Or.inr ⟨s, by simp [hs], rfl⟩)))

theorem custom_mem_gcRoots (g : GcInfo) (x : Ent) (hx : x ∈ g.m.roots) : x ∈ gcRoots g :=
  List.mem_append_right _ hx

theorem usedFinished_done (g : GcInfo) (h : usedFinished g = true) :
    (closureSt (gcSucc g) (universeSize g * universeSize g + 16) (gcRoots g).eraseDups []).1 = [] := by
  simpa [usedFinished] using h

theorem usedSet_bounds (g : GcInfo) (x : Ent) :
    (x ∈ closure (gcSucc g) (universeSize g * universeSize g + 16) (gcRoots g).eraseDups [] → x ∈ usedSet g) ∧
    (x ∈ usedSet g →
      x ∈ closure (gcSucc g) (universeSize g * universeSize g + 16) (gcRoots g).eraseDups [] ∨ x = ("m", 0)) := by
  unfold usedSet
  simp only
  split
  · simp only [List.mem_append, List.mem_singleton]
    exact ⟨Or.inl, id⟩
  · exact ⟨id, Or.inl⟩

theorem usedSet_reach (g : GcInfo) (hd : usedFinished g = true) (x : Ent) (hx : x ∈ usedSet g) :
    Reach (gcSucc g) (gcRoots g).eraseDups x ∨ x = ("m", 0) :=
  ((usedSet_bounds g x).2 hx).imp_left (closure_is_reach _ _ _ (usedFinished_done g hd) x).1

theorem reach_usedSet (g : GcInfo) (hd : usedFinished g = true) (x : Ent)
    (hr : Reach (gcSucc g) (gcRoots g).eraseDups x) : x ∈ usedSet g :=
  (usedSet_bounds g x).1 ((closure_is_reach _ _ _ (usedFinished_done g hd) x).2 hr)

theorem usedSet_roots (g : GcInfo) (hd : usedFinished g = true) (x : Ent) (hx : x ∈ gcRoots g) :
    x ∈ usedSet g :=
  reach_usedSet g hd x (Reach.root x (List.mem_eraseDups.2 hx))

theorem gcSucc_local (g : GcInfo) (f : Nat) (pf : ParsedFunc) (hloc : ¬ f < g.nif) (hpf : g.pfs[f - g.nif]? = some pf) :
    gcSucc g ("f", f) = ("y", pf.ty) :: refsOfBody pf.seqs := by
  simp [gcSucc, hloc, hpf]

theorem gcSucc_global (g : GcInfo) (k : Nat) (gl : GlobalTyM × CExprM) (h : g.m.globals[k]? = some gl) :
    gcSucc g ("g", g.nig + k) = refsOfCExpr gl.2 := by
  have : ¬ g.nig + k < g.nig := by omega
  simp [gcSucc, this, h]

theorem gcSucc_data (g : GcInfo) (k : Nat) (d : DataM) (mem : Nat) (off : CExprM) (h : g.m.datas[k]? = some d)
    (hm : d.mode = .active mem off) : gcSucc g ("d", k) = ("m", mem) :: (refsOfCExpr off).filter (·.1 = "g") := by
  obtain ⟨fl, md, bytes⟩ := d
  cases hm
  simp [gcSucc, h]

theorem gcSucc_elem (g : GcInfo) (k : Nat) (e : ElemM) (h : g.m.elems[k]? = some e) :
    gcSucc g ("e", k) =
      (match e.items with
       | .funcs fs => fs.map (("f", ·))
       | .exprs _ es => es.flatMap refsOfCExpr) ++
      (match e.mode with
       | .active t off => (refsOfCExpr off).filter (·.1 = "g") ++ [("t", t.getD 0)]
       | _ => []) := by
  simp only [gcSucc, h]
  rfl

theorem gcSucc_mem (g : GcInfo) (mem : Nat) : gcSucc g ("m", mem) = (activeDatasOf g.m mem).map (("d", ·)) := rfl

/-- No exception for the residue memory, which was added after the worklist ran: its successors are
    active data segments, and those are roots. -/
theorem usedSet_succ (g : GcInfo) (hd : usedFinished g = true) (x y : Ent) (hx : x ∈ usedSet g)
    (hy : y ∈ gcSucc g x) : y ∈ usedSet g := by
  rcases usedSet_reach g hd x hx with hr | rfl
  · exact reach_usedSet g hd y (Reach.step x y hr hy)
  · apply usedSet_roots g hd
    simp only [gcSucc_mem, activeDatasOf, List.mem_map, List.mem_filterMap] at hy
    obtain ⟨d, ⟨p, hp, hd'⟩, rfl⟩ := hy
    simp only [gcRoots, List.mem_append, List.mem_filterMap]
    refine Or.inl (Or.inl (Or.inr ⟨p, hp, ?_⟩))
    cases hm : p.1.mode with
    | passive => simp [hm] at hd'
    | active mm off =>
      simp only [hm] at hd'
      split at hd'
      · simpa using hd'
      · cases hd'

theorem mem_keptOf {u : List Ent} {sp : String} {n i : Nat} : i ∈ keptOf u sp n ↔ i < n ∧ (sp, i) ∈ u := by
  simp [keptOf]

theorem assoc_compact_isSome {kept : List Nat} {i : Nat} : (assoc (compact kept) i).isSome = true ↔ i ∈ kept := by
  rw [assoc_isSome_iff, compact, keys_zipIdx_map id (fun _ => rfl), List.map_id]

end Walrus
