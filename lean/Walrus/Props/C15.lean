import Walrus.Proofs.Body
import Walrus.Builder
import Walrus.Proofs.Locals

/-!
# C15 — IR built through the builder API is emitted faithfully

Model: `Walrus/Builder.lean` (dangling_instr_seq / instr / instr_at; block, loop_, if_else and the
`_at` variants are compositions of these), `Walrus/Body.lean` (the `Emit` visitor over
`dfs_in_order`, `emit_locals`).  For *every* builder history whose resulting sequence graph
unfolds to a finite tree: the emitted body is exactly the structural in-order flattening of
that tree (`flattenL`), branch depths denote the intended enclosing construct, positional
insertion is list insertion, fresh sequences never disturb existing ones, parameters keep their
positions and the declared local groups account for exactly the used non-parameter locals.
-/
namespace Walrus
namespace C15

/-- **Emitted body = in-order flattening of the tree**, for the arena of any builder state `st` whose
    sequence graph unfolds to a finite tree: same instructions in the same order, correct nesting and
    block types. The history `h` plays no part in the proof: the statement holds of every `BState`,
    reached by builder calls or not; what the calls do to the state is the subject of the theorems
    on `bstep` below. -/
theorem builder_emit_is_flatten (m : IdMaps) (h : List BOp) (st : BState) (hrun : brun [] h = some st)
    (entry : Nat) (ty : LSeqTy) (t : TL LSeqTy LInstr)
    (he : st.toArena.get? entry = some (ty, t.toList)) (hv : ViewL st.toArena t)
    (ops : List (Nat × Op)) (hf : flattenL m [entry] t = some ops) :
    ∃ n, ∀ fuel, n ≤ fuel → (emitBodyFuel m st.toArena fuel entry).map (·.1) =
      some (ops.map (·.2) ++ [⟨"End", []⟩]) :=
  emitBody_ops_eq_flatten m st.toArena entry ty t he hv ops hf

theorem idxOf_le {l : List Nat} {s k : Nat} (h : l[k]? = some s) : l.idxOf s ≤ k := by
  obtain ⟨hk, rfl⟩ := List.getElem?_eq_some_iff.1 h
  exact Nat.le_of_not_lt fun hlt => by simpa using List.not_of_lt_findIdx hlt

/-- a branch is emitted with the depth at which its target sits among the enclosing constructs:
    position `d` holds the target, and no construct nearer than `d` is the target -/
theorem branch_depth_reaches_target (ctx : List Nat) (s d : Nat) (h : branchTarget ctx s = some d) :
    ctx[d]? = some s ∧ ∀ k, k < d → ctx[k]? ≠ some s := by
  unfold branchTarget at h
  simp only at h
  split at h
  · rename_i hlt
    cases h
    exact ⟨by simp [List.getElem?_eq_getElem hlt], fun k hk hc => by have := idxOf_le hc; omega⟩
  · cases h

/-- `instr_at(pos, x)`: `x` ends up at position `pos`, everything else keeps its relative order -/
theorem insertAt_is_list_insertion {α : Type} (l l' : List α) (pos : Nat) (x : α)
    (h : insertAtList l pos x = some l') :
    l'[pos]? = some x ∧ l'.eraseIdx pos = l ∧ pos ≤ l.length := by
  unfold insertAtList at h
  split at h
  · rename_i hp
    cases h
    refine ⟨?_, ?_, hp⟩
    · simp [Nat.min_eq_left hp]
    · have hl : (l.take pos).length = pos := by simp [Nat.min_eq_left hp]
      rw [List.eraseIdx_append_of_length_le (by omega)]
      simp [hl]
  · cases h

/-- … and it panics exactly when `pos > len` -/
theorem insertAt_panics_iff {α : Type} (l : List α) (pos : Nat) (x : α) :
    insertAtList l pos x = none ↔ l.length < pos := by
  unfold insertAtList
  by_cases h : pos ≤ l.length
  · rw [if_pos h]; exact ⟨nofun, fun h' => absurd h (Nat.not_le_of_gt h')⟩
  · rw [if_neg h]; exact ⟨fun _ => Nat.lt_of_not_le h, fun _ => rfl⟩

/-- `dangling_instr_seq` hands out the next arena id and leaves every existing sequence alone -/
theorem dangling_fresh (st : BState) (ty : SeqTy) :
    bstep st (.dangling ty) = some (st ++ [(ty, [])], some st.length) ∧
    ∀ k, k < st.length → (st ++ [(ty, [])])[k]? = st[k]? := by
  refine ⟨rfl, fun k hk => ?_⟩
  simp [List.getElem?_append_left hk]

/-- appending (`.push`) touches only the addressed sequence -/
theorem push_frame (st st' : BState) (seq : Nat) (i : BInstr) (o : Option Nat)
    (h : bstep st (.push seq i) = some (st', o)) :
    st'.length = st.length ∧ ∀ k, k ≠ seq → st'[k]? = st[k]? := by
  simp only [bstep, modifySeq, Option.map_eq_some_iff] at h
  obtain ⟨s2, hs2, heq⟩ := h
  cases hget : st[seq]? with
  | none => simp [hget] at hs2
  | some p =>
    simp only [hget, Option.map_some, Option.some.injEq] at hs2
    cases heq
    subst hs2
    exact ⟨by simp, fun k hk => by simp [List.getElem?_set_ne (Ne.symm hk)]⟩

theorem assoc_zipIdx_args (args : List Nat) (rest : List (Nat × Nat)) (hn : args.Nodup) (k : Nat) (hk : k < args.length) :
    assoc (args.zipIdx.map (fun p => (p.1, p.2)) ++ rest) args[k] = some k := by
  have := assoc_zipIdx_getElem (fun x => x) (fun i => i) args 0 (by simpa using hn) k hk
  rw [assoc_append, this, Option.some_or, Nat.zero_add]

/-- parameters are assigned their positions -/
theorem params_at_their_positions (args : List Nat) (tyOf : Nat → String) (used : List Nat)
    (hn : args.Nodup) (k : Nat) (hk : k < args.length) :
    assoc (emitLocals args tyOf used).2 args[k] = some k := by
  simp only [emitLocals]
  exact assoc_zipIdx_args args _ hn k hk

/-- **the local map is total**: every parameter and every local the body mentions has an index -/
theorem every_used_local_has_an_index (args : List Nat) (tyOf : Nat → String) (used : List Nat) (l : Nat)
    (h : l ∈ args ∨ l ∈ used) : ∃ i, assoc (emitLocals args tyOf used).2 l = some i :=
  local_map_total args tyOf used l h

/-- **the local map is injective**: two locals never share an emitted index -/
theorem no_two_locals_share_an_index (args : List Nat) (tyOf : Nat → String) (used : List Nat) (a b i : Nat)
    (ha : assoc (emitLocals args tyOf used).2 a = some i) (hb : assoc (emitLocals args tyOf used).2 b = some i) :
    a = b :=
  local_map_injective args tyOf used a b i ha hb

/-- **every local lands in a slot of its own type**: a parameter at its position; any other local
    after the parameters, at an index whose declaration (the expanded `(count, type)` groups that
    are written into the body) is the local's type — for the seven value types (`knownTy`) -/
theorem every_local_lands_in_a_slot_of_its_type (args : List Nat) (tyOf : Nat → String) (used : List Nat)
    (hk : ∀ l ∈ used, knownTy (tyOf l)) (l i : Nat) (h : assoc (emitLocals args tyOf used).2 l = some i) :
    (l ∈ args ∧ args[i]? = some l) ∨
    (l ∉ args ∧ l ∈ used ∧ args.length ≤ i ∧
      (expandLocals (emitLocals args tyOf used).1)[i - args.length]? = some (tyOf l)) := by
  rcases local_index_spec args tyOf used hk l i h with h | ⟨h1, h2, h3, _, h5⟩
  · exact Or.inl h
  · exact Or.inr ⟨h1, h2, h3, h5⟩

/-- the declared groups are exactly the types of the used non-parameter locals in emission order -/
theorem declared_locals_are_the_used_ones (args : List Nat) (tyOf : Nat → String) (used : List Nat)
    (hk : ∀ l ∈ used, knownTy (tyOf l)) :
    expandLocals (emitLocals args tyOf used).1 = (emitOrder args tyOf used).map tyOf ∧
    ∀ x, x ∈ emitOrder args tyOf used ↔ x ∈ used ∧ x ∉ args :=
  ⟨emitLocals_decls args tyOf used hk, emitOrder_mem args tyOf used⟩

example : knownTy "i32" ∧ knownTy "externref" ∧ ¬ knownTy "?" := by unfold knownTy; decide +kernel

/-- non-vacuity and a worked instance: two parameters, three used locals of two types -/
example : emitLocals [10, 11] (fun l => if l = 12 then "f64" else if l = 14 then "i32" else "f64") [10, 12, 13, 14]
    = ([(1, "i32"), (2, "f64")], [(10, 0), (11, 1), (14, 2), (12, 3), (13, 4)]) := by decide +kernel

example : (brun [] [.dangling .empty, .push 0 (.leaf ⟨"I32Const", [.num 1]⟩), .dangling .empty,
    .push 1 (.br 0), .insertAt 0 1 (.block 1), .insertAt 0 1 (.leaf ⟨"Drop", []⟩)]).map
      (fun st => (emitBodyFuel {} st.toArena 20 0).map (·.1))
    = some (some [⟨"I32Const", [.num 1]⟩, ⟨"Drop", []⟩, ⟨"Block", [.bt .empty]⟩, ⟨"Br", [.ref "l" 1]⟩,
                  ⟨"End", []⟩, ⟨"End", []⟩]) := by decide +kernel

end C15
end Walrus
