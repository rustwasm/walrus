import Walrus.Proofs.Module

/-!
# C04 — module-level structure is preserved by the round trip

Model: `Walrus/Module.lean` (`roundTripModule`), tied to the code by exact prediction of the decoded
output on generated modules. For *every* module on which the model's round trip succeeds:
-/
namespace Walrus
namespace C04

/-- imports: same number, same order, same module/field names, same kind and — for tables,
    memories and globals — the full type (limits, shared and 64-bit flags, page size, mutability) -/
theorem imports_preserved (m o : ModuleM) (h : roundTripModule m = some o) :
    o.imports.length = m.imports.length ∧
    ∀ (k : Nat) (i : String × String × ImportDescM), m.imports[k]? = some i →
      ∃ j : String × String × ImportDescM, o.imports[k]? = some j ∧ j.1 = i.1 ∧ j.2.1 = i.2.1 ∧
        (match i.2.2 with
         | .func _ => ∃ t, j.2.2 = .func t
         | d => j.2.2 = d) :=
  let c := roundTrip_components m o h
  ⟨c.importsLen, c.imports⟩

/-- **function imports keep their signature**: where the input imports a function of type index
    `t`, the output imports, at the same position and under the same names, a function whose type
    index names the same signature in the output's type section — through type de-duplication and
    the sorted type section -/
theorem function_imports_keep_their_signature (m o : ModuleM) (h : roundTripModule m = some o) :
    ∀ (k : Nat) (a b : String) (t : Nat), m.imports[k]? = some (a, b, .func t) →
      ∃ t' sg, o.imports[k]? = some (a, b, .func t') ∧ m.sigs[t]? = some sg ∧ o.sigs[t']? = some sg := by
  obtain ⟨pfs, oc, rt⟩ := roundTripModule_some m o h
  intro k a b t hk
  obtain ⟨j, hj, hf⟩ := mapM_some_get rt.imports k _ hk
  obtain ⟨t', ht', rfl⟩ := Option.map_eq_some_iff.1 hf
  obtain ⟨sg, h1, h2⟩ := type_index_keeps_signature m.sigs t t' ht'
  exact ⟨t', sg, hj, h1, rt.sigs_eq ▸ h2⟩

/-- **every function keeps its signature**: the signature the output's type section gives to the
    `j`-th function of its function section is the signature the input's type section gave to one
    of the input's local functions — through type de-duplication, type sorting and the reordering
    of functions by size. Which input function it is (by function id, `importedFuncs + k`) is said
    by `emitted_function_keeps_signature`, and that each is emitted exactly once by
    `C19.every_local_function_is_emitted_exactly_once`: the decoded module carries no ids, so the
    statement here does not identify it. The function count is preserved. -/
theorem functions_keep_their_signature (m o : ModuleM) (h : roundTripModule m = some o) :
    o.funcs.length = m.funcs.length ∧
    ∀ (j tj : Nat), o.funcs[j]? = some tj → ∃ (k tk : Nat) (sg : Sig), m.funcs[k]? = some tk ∧
      m.sigs[tk]? = some sg ∧ o.sigs[tj]? = some sg := by
  obtain ⟨pfs, oc, rt⟩ := roundTripModule_some m o h
  have hfl := codeOf_funcs_length m rt.codeLen
  constructor
  · -- the emitted functions are the parsed ones in another order
    have := (emitCode_ids_perm (codeOf m) pfs oc rt.parsed rt.emitted).length_eq
    simpa [rt.funcs, hfl] using this
  · intro j tj hj
    rw [rt.funcs, List.getElem?_map, Option.map_eq_some_iff] at hj
    obtain ⟨f, hf, rfl⟩ := hj
    obtain ⟨k, inF, sg, hk, _, hsg, hos⟩ := emitted_function_keeps_signature (codeOf m) pfs _ oc rt.parsed rt.emitted j f hf
    simp only [codeOf, List.getElem?_map, Option.map_eq_some_iff] at hk
    obtain ⟨q, hq, rfl⟩ := hk
    exact ⟨k, q.2, sg, (List.getElem?_zip_eq_some.1 hq).2, hsg, rt.sigs ▸ hos⟩

/-- local tables and memories are emitted as they came in -/
theorem tables_and_memories_preserved (m o : ModuleM) (h : roundTripModule m = some o) :
    o.tables = m.tables ∧ o.mems = m.mems :=
  let c := roundTrip_components m o h
  ⟨c.tables, c.mems⟩

/-- globals: same number and order, same value type, mutability and sharedness -/
theorem global_types_preserved (m o : ModuleM) (h : roundTripModule m = some o) :
    o.globals.length = m.globals.length ∧
    ∀ (k : Nat) (g : GlobalTyM × CExprM), m.globals[k]? = some g →
      ∃ g' : GlobalTyM × CExprM, o.globals[k]? = some g' ∧ g'.1 = g.1 :=
  let c := roundTrip_components m o h
  ⟨c.globalsLen, fun k g hk => (c.globals k g hk).imp fun _ hg => ⟨hg.1, hg.2.1⟩⟩

/-- constant expressions (`CExprKept`): the initialiser of every global is written with the same
    operators, one for one and in order — same operator name, same numeric and type immediates;
    an entity operand (`global.get`, `ref.func`) stays an operand of the same index space -/
theorem global_initialisers_preserved (m o : ModuleM) (h : roundTripModule m = some o) :
    ∀ (k : Nat) (g : GlobalTyM × CExprM), m.globals[k]? = some g →
      ∃ g' : GlobalTyM × CExprM, o.globals[k]? = some g' ∧ g'.1 = g.1 ∧ CExprKept g.2 g'.2 :=
  (roundTrip_components m o h).globals

/-- exports: same number, order, names and kinds; non-function targets unchanged; function targets
    and the start function renamed by one and the same map, which is injective (two exports name
    the same function after the round trip only if they did before) -/
theorem exports_and_start_preserved (m o : ModuleM) (h : roundTripModule m = some o) :
    o.exports.length = m.exports.length ∧
    (∀ (k : Nat) (e : String × String × Nat), m.exports[k]? = some e →
      ∃ e' : String × String × Nat, o.exports[k]? = some e' ∧ e'.1 = e.1 ∧ e'.2.1 = e.2.1 ∧ (e.2.1 ≠ "f" → e'.2.2 = e.2.2)) ∧
    m.start.isSome = o.start.isSome ∧
    ∃ ρ : List (Nat × Nat),
      (∀ (k : Nat) (e : String × String × Nat), m.exports[k]? = some e → e.2.1 = "f" →
        ∃ e' : String × String × Nat, o.exports[k]? = some e' ∧ assoc ρ e.2.2 = some e'.2.2) ∧
      (∀ s, m.start = some s → ∃ s', o.start = some s' ∧ assoc ρ s = some s') ∧
      (∀ a b x : Nat, assoc ρ a = some x → assoc ρ b = some x → a = b) :=
  let c := roundTrip_components m o h
  ⟨c.exportsLen, c.exports, c.startSome, by
    obtain ⟨ρ, h1, h2, _, _, h5⟩ := c.funcRenaming
    exact ⟨ρ, h1, h2, h5⟩⟩

/-- two function exports name one and the same function after the round trip exactly when they did
    before it (the renaming is a function, and it is injective) -/
theorem function_exports_alias_iff (m o : ModuleM) (h : roundTripModule m = some o)
    (k1 k2 : Nat) (e1 e2 : String × String × Nat)
    (h1 : m.exports[k1]? = some e1) (h2 : m.exports[k2]? = some e2) (f1 : e1.2.1 = "f") (f2 : e2.2.1 = "f") :
    ∃ e1' e2' : String × String × Nat, o.exports[k1]? = some e1' ∧ o.exports[k2]? = some e2' ∧
      (e1'.2.2 = e2'.2.2 ↔ e1.2.2 = e2.2.2) := by
  obtain ⟨ρ, hex, _, _, _, hinj⟩ := (roundTrip_components m o h).funcRenaming
  obtain ⟨e1', he1, ha1⟩ := hex k1 e1 h1 f1
  obtain ⟨e2', he2, ha2⟩ := hex k2 e2 h2 f2
  refine ⟨e1', e2', he1, he2, ?_, ?_⟩
  · intro heq
    exact hinj _ _ _ ha1 (heq ▸ ha2)
  · intro heq
    rw [heq, ha2] at ha1
    exact (Option.some.inj ha1).symm

/-- segments: nothing added or dropped; data payloads, modes and target memories unchanged, the
    offset expression of an active data segment kept operator for operator (`CExprKept`) -/
theorem segments_preserved (m o : ModuleM) (h : roundTripModule m = some o) :
    o.elems.length = m.elems.length ∧ o.datas.length = m.datas.length ∧
    ∀ (k : Nat) (d : DataM), m.datas[k]? = some d →
      ∃ d' : DataM, o.datas[k]? = some d' ∧ d'.bytes = d.bytes ∧
        (match d.mode with
         | .passive => d'.mode = .passive
         | .active mem o => ∃ off, d'.mode = .active mem off ∧ CExprKept o off) :=
  let c := roundTrip_components m o h
  ⟨c.elemsLen, c.datasLen, c.datas⟩

/-- element segments: the `k`-th segment of the output is the `k`-th of the input — same mode
    (active on the same table, an absent table operand meaning table 0; passive; declared), same
    kind of items, same element type and number of expression items — and its function items are
    the input's renamed, one by one and in order, by the *same* map that renames the function
    operands of the exports and of the start section; the offset expression of an active segment
    and every expression item are kept operator for operator (`CExprKept`): a table slot, an export and the start
    section that named one function before the round trip name one function after it, and (the map being injective)
    two that named different functions still do -/
theorem element_segments_preserved (m o : ModuleM) (h : roundTripModule m = some o) :
    ∃ ρ : List (Nat × Nat),
      (∀ (k : Nat) (e : String × String × Nat), m.exports[k]? = some e → e.2.1 = "f" →
        ∃ e' : String × String × Nat, o.exports[k]? = some e' ∧ assoc ρ e.2.2 = some e'.2.2) ∧
      (∀ s, m.start = some s → ∃ s', o.start = some s' ∧ assoc ρ s = some s') ∧
      (∀ (k : Nat) (e : ElemM), m.elems[k]? = some e → ∃ e' : ElemM, o.elems[k]? = some e' ∧
        (match e.mode with
         | .active t off => ∃ t' off', e'.mode = .active t' off' ∧ t'.getD 0 = t.getD 0 ∧ CExprKept off off'
         | .passive => e'.mode = .passive
         | .declared => e'.mode = .declared) ∧
        (match e.items with
         | .funcs fs => ∃ fs', e'.items = .funcs fs' ∧ fs'.length = fs.length ∧
             ∀ (i f : Nat), fs[i]? = some f → ∃ f', fs'[i]? = some f' ∧ assoc ρ f = some f'
         | .exprs ty es => ∃ es', e'.items = .exprs ty es' ∧ es'.length = es.length ∧
             ∀ (i : Nat) (c : CExprM), es[i]? = some c → ∃ c', es'[i]? = some c' ∧ CExprKept c c')) ∧
      (∀ a b x : Nat, assoc ρ a = some x → assoc ρ b = some x → a = b) := by
  obtain ⟨ρ, h1, h2, _, h4, h5⟩ := (roundTrip_components m o h).funcRenaming
  refine ⟨ρ, h1, h2, ?_, h5⟩
  intro k e hk
  obtain ⟨e', he', hmode, hitems⟩ := h4 k e hk
  refine ⟨e', he', hmode, ?_⟩
  cases hi : e.items with
  | funcs fs =>
    simp only [hi] at hitems
    obtain ⟨fs', hf, hm, hl⟩ := hitems
    exact ⟨fs', hf, hl, mapM_some_get hm⟩
  | exprs ty es =>
    simp only [hi] at hitems
    exact hitems

/-- non-vacuity: a module with an imported 64-bit shared memory, an imported function, a table,
    a global initialised by `ref.func` and an export goes through the model's round trip -/
def sample : ModuleM :=
  { sigs := [([], []), (["i32"], [])],
    imports := [("env", "mem", .mem ⟨1, some 4, true, true, none⟩), ("env", "f", .func 1)],
    funcs := [0],
    tables := [⟨"funcref", 1, none, false⟩],
    globals := [(⟨"funcref", false, false⟩, [⟨"RefFunc", [.ref "f" 1]⟩])],
    exports := [("main", "f", 1), ("m", "m", 0)],
    start := some 1,
    code := [([], [(⟨"End", []⟩, 0)])] }

example : (roundTripModule sample).map (·.imports) =
    some [("env", "mem", .mem ⟨1, some 4, true, true, none⟩), ("env", "f", .func 1)] := by decide +kernel
example : (roundTripModule sample).map (·.exports) = some [("main", "f", 1), ("m", "m", 0)] := by decide +kernel
example : (roundTripModule sample).map (·.start) = some (some 1) := by decide +kernel
example : (roundTripModule sample).map (·.globals) =
    some [(⟨"funcref", false, false⟩, [⟨"RefFunc", [.ref "f" 1]⟩])] := by decide +kernel

/-- non-vacuity for the element theorem: an active segment on table 0 with two function items and a
    declared expression segment go through the model's round trip -/
def sampleE : ModuleM :=
  { sample with elems := [⟨0, .active none [⟨"I32Const", [.imm "0"]⟩], .funcs [1, 0]⟩,
                          ⟨7, .declared, .exprs "funcref" [[⟨"RefFunc", [.ref "f" 1]⟩]]⟩] }
example : (roundTripModule sampleE).map (·.elems) = some sampleE.elems := by decide +kernel

end C04
end Walrus