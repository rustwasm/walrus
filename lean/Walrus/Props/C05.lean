import Walrus.Gen.ParseArms

/-!
# C05 — parsing is a total, sound and complete validation gate

What can be proved without a model of wasmparser: (a) the *gate order* in `Module::parse` — in
every section arm the reference validator is consulted on that section before walrus touches it,
and arms for unsupported constructs stop with an error (obligations on the table the translator
regenerates from the source on every run); (b) the *feature arithmetic* — restricting to stable
features removes exactly multi-memory, memory64 and threads. Whether the bytes decode and
validate is wasmparser's judgement; accept/reject agreement with a standalone validator, absence of
panics, stack overflows and hangs on arbitrary bytes are decided by the differential oracle
(sampling), which is why this property is claimed as *partial*.
-/
namespace Walrus
namespace C05
open Gen

def isRet (e : String) : Bool := ("ret.".toList).isPrefixOf e.toList
def isValidator (e : String) : Bool := ("validator.".toList).isPrefixOf e.toList

/-- an arm is gated when, if it touches the module under construction at all, its first event is a
    call on the validator -/
def gated (a : ParseArm) : Bool :=
  !(a.events.any isRet) || (match a.events with | e :: _ => isValidator e | [] => false)

/-- custom sections are not validated by wasmparser (they cannot make a module invalid) -/
def exempt (a : ParseArm) : Bool := a.payloads == ["CustomSection"]

def unsupportedPayloads : List String :=
  ["ModuleSection", "InstanceSection", "CoreTypeSection", "ComponentSection", "ComponentInstanceSection",
   "ComponentAliasSection", "ComponentTypeSection", "ComponentCanonicalSection", "ComponentStartSection",
   "ComponentImportSection", "ComponentExportSection", "TagSection"]

/-- **gate order**: every arm of `match payload?` validates before it parses -/
theorem every_section_is_validated_before_it_is_parsed :
    parseMatchFound = true ∧ (parseArms.filter (fun a => !exempt a)).all gated = true := by
  decide +kernel

/-- **unsupported constructs are rejected**, never half-parsed -/
theorem unsupported_sections_bail :
    (parseArms.filter (fun a => a.payloads.any unsupportedPayloads.contains)).all
      (fun a => a.events.contains "bail!" && !(a.events.any isRet)) = true ∧
    unsupportedPayloads.all (fun p => parseArms.any (fun a => a.payloads.contains p)) = true := by
  decide +kernel

/-- **feature arithmetic**: the stable feature set is the default one minus exactly
    multi-memory, memory64 and threads; no other switch influences the feature set -/
theorem stable_features_remove_exactly_three :
    featuresUnlessStable = ["MULTI_MEMORY", "MEMORY64", "THREADS"] ∧ featuresOtherCondition = [] ∧
    featuresAlways = ["FLOATS", "MUTABLE_GLOBAL", "SATURATING_FLOAT_TO_INT", "SIGN_EXTENSION", "MULTI_VALUE",
                      "REFERENCE_TYPES", "BULK_MEMORY", "SIMD", "RELAXED_SIMD", "TAIL_CALL"] :=
  ⟨rfl, rfl, rfl⟩

end C05
end Walrus
