import Walrus.Offsets
import Walrus.Proofs.Lists

/-! Soundness of the code-offset bookkeeping against the byte layout of the code section (C11).
    The loop walks the entries with a cursor; the invariant is that the cursor is the length of the
    bytes `before` the entries still to come. -/
namespace Walrus

theorem drop_into_mid {β : Type} (before mid rest : List β) {k : Nat} (hk : k ≤ mid.length) :
    (before ++ mid ++ rest).drop (before.length + k) = mid.drop k ++ rest := by
  rw [List.append_assoc, List.drop_length_add_append, List.drop_append_of_le_length hk]

theorem take_drop_mid {β : Type} (before mid rest : List β) :
    ((before ++ mid ++ rest).drop before.length).take mid.length = mid := by
  simp [List.append_assoc]

theorem flatten_take_drop (l : List (List UInt8)) (k : Nat) :
    l.flatten = (l.take k).flatten ++ (l.drop k).flatten := by
  rw [← List.flatten_append, List.take_append_drop]

theorem length_flatten_take_le (l : List (List UInt8)) (k : Nat) :
    (l.take k).flatten.length ≤ l.flatten.length := by
  conv => rhs; rw [flatten_take_drop l k]
  simp

theorem EmittedFunc.entry_length (f : EmittedFunc) : f.entry.length = lebLen f.byteLen + f.byteLen := by
  simp [EmittedFunc.entry, lebBytes_length, EmittedFunc.byteLen]

theorem EmittedFunc.posOf_le (f : EmittedFunc) (k : Nat) : f.posOf k ≤ f.byteLen := by
  have := length_flatten_take_le f.ops k
  simp only [EmittedFunc.posOf, EmittedFunc.byteLen, EmittedFunc.body, List.length_append]
  omega

/-- where operator `k` of function `f` begins inside its code-section entry -/
theorem entry_drop_op (f : EmittedFunc) (k : Nat) (hk : k < f.ops.length) :
    ∃ rest, f.entry.drop (lebLen f.byteLen + f.posOf k) = f.ops[k] ++ rest := by
  unfold EmittedFunc.entry EmittedFunc.body EmittedFunc.posOf
  refine ⟨(f.ops.drop (k+1)).flatten, ?_⟩
  have hd : f.ops.flatten.drop (f.ops.take k).flatten.length = (f.ops.drop k).flatten := by
    conv => lhs; rw [flatten_take_drop f.ops k]
    simp
  rw [← lebBytes_length, List.drop_length_add_append, List.drop_length_add_append, hd,
    List.drop_eq_getElem_cons hk, List.flatten_cons]

/-- an entry of the location map is *good* for a byte string when it is the location of some
    operator of some emitted function and that operator's encoding starts at the reported offset -/
def GoodPair (fs : List EmittedFunc) (all : List UInt8) (p : Nat × Nat) : Prop :=
  ∃ f ∈ fs, ∃ k, ∃ (hk : k < f.ops.length), (p.1, k) ∈ f.marks ∧ p.1 ≠ defaultLoc ∧
    ∃ rest, all.drop p.2 = f.ops[k] ++ rest

theorem btInsert_mem {k v : Nat} {m : List (Nat × Nat)} {p : Nat × Nat} (h : p ∈ btInsert k v m) :
    p = (k, v) ∨ p ∈ m := by
  induction m with
  | nil => exact .inl (by simpa [btInsert] using h)
  | cons x xs ih =>
    obtain ⟨a, b⟩ := x
    unfold btInsert at h
    split at h
    · exact List.mem_cons.1 h
    · split at h
      · exact (List.mem_cons.1 h).imp id (List.mem_cons_of_mem _)
      · rcases List.mem_cons.1 h with h | h
        · exact .inr (h ▸ List.mem_cons_self)
        · exact (ih h).imp id (List.mem_cons_of_mem _)

/-- what `collect_non_default_code_offsets` adds: only non-default marks, at their operator's position -/
theorem mem_collectOffsets {acc : List (Nat × Nat)} {off : Nat} {f : EmittedFunc} {p : Nat × Nat}
    (h : p ∈ collectOffsets acc off f) :
    p ∈ acc ∨ ∃ q ∈ f.marks, q.1 ≠ defaultLoc ∧ p = (q.1, f.posOf q.2 + off) := by
  unfold collectOffsets at h
  generalize f.marks = ms at h ⊢
  induction ms generalizing acc with
  | nil => exact .inl h
  | cons q qs ih =>
    rcases ih h with h | ⟨q', hq', h⟩
    · dsimp only at h
      split at h
      · exact .inl h
      · exact (btInsert_mem h).symm.imp id fun e => ⟨q, List.mem_cons_self, ‹_›, e⟩
    · exact .inr ⟨q', List.mem_cons_of_mem _ hq', h⟩

theorem collectOffsets_sound (fs : List EmittedFunc) (all : List UInt8) (f : EmittedFunc) (hf : f ∈ fs)
    (hm : ∀ p ∈ f.marks, p.2 < f.ops.length)
    (before rest : List UInt8) (hall : all = before ++ f.entry ++ rest)
    (acc : List (Nat × Nat)) (hacc : ∀ p ∈ acc, GoodPair fs all p) :
    ∀ p ∈ collectOffsets acc (before.length + lebLen f.byteLen) f, GoodPair fs all p := by
  intro p hp
  rcases mem_collectOffsets hp with hp | ⟨q, hq, hnd, rfl⟩
  · exact hacc p hp
  · obtain ⟨r, hr⟩ := entry_drop_op f q.2 (hm q hq)
    refine ⟨f, hf, q.2, hm q hq, hq, hnd, r ++ rest, ?_⟩
    have hle : lebLen f.byteLen + f.posOf q.2 ≤ f.entry.length := by
      have := f.posOf_le q.2; rw [f.entry_length]; omega
    have e : f.posOf q.2 + (before.length + lebLen f.byteLen) = before.length + (lebLen f.byteLen + f.posOf q.2) := by
      omega
    rw [hall, e, drop_into_mid before f.entry rest hle, hr, List.append_assoc]

def GoodRange (fs : List EmittedFunc) (all : List UInt8) (r : Nat × Nat × Nat) : Prop :=
  ∃ f ∈ fs, f.id = r.1 ∧ r.2.1 ≤ r.2.2 ∧ (all.drop r.2.1).take (r.2.2 - r.2.1) = f.entry

theorem offsetLoop_sound (all : List UInt8) (allFs : List EmittedFunc) :
    ∀ (fs : List EmittedFunc) (before : List UInt8) (m : List (Nat × Nat)) (rs : List (Nat × Nat × Nat)),
      (∀ f ∈ fs, f ∈ allFs) →
      (∃ rest, all = before ++ (fs.map EmittedFunc.entry).flatten ++ rest) →
      ((∀ f ∈ fs, ∀ p ∈ f.marks, p.2 < f.ops.length) → (∀ p ∈ m, GoodPair allFs all p) →
        ∀ p ∈ (offsetLoop fs before.length m rs).1, GoodPair allFs all p) ∧
      ((∀ r ∈ rs, GoodRange allFs all r) → ∀ r ∈ (offsetLoop fs before.length m rs).2, GoodRange allFs all r) := by
  intro fs
  induction fs with
  | nil => intro before m rs _ _; exact ⟨fun _ h => h, fun h => h⟩
  | cons f r ih =>
    intro before m rs hfs ⟨rest, hall⟩
    have hall' : all = before ++ f.entry ++ ((r.map EmittedFunc.entry).flatten ++ rest) := by
      simp [hall, List.append_assoc]
    have hlen : before.length + lebLen f.byteLen + f.byteLen = (before ++ f.entry).length := by
      rw [List.length_append, f.entry_length]; omega
    simp only [offsetLoop, hlen]
    have ih' := ih (before ++ f.entry) (collectOffsets m (before.length + lebLen f.byteLen) f)
      (rs ++ [(f.id, before.length + lebLen f.byteLen - lebLen f.byteLen, (before ++ f.entry).length)])
      (fun g hg => hfs g (List.mem_cons_of_mem _ hg)) ⟨rest, by simp [hall, List.append_assoc]⟩
    refine ⟨fun hmarks hm => ih'.1 (fun g hg => hmarks g (List.mem_cons_of_mem _ hg)) ?_, fun hrs => ih'.2 ?_⟩
    · exact collectOffsets_sound allFs all f (hfs f List.mem_cons_self) (hmarks f List.mem_cons_self) before _
        hall' m hm
    · intro x hx
      rcases List.mem_append.1 hx with hx | hx
      · exact hrs x hx
      · obtain rfl := List.mem_singleton.1 hx
        refine ⟨f, hfs f List.mem_cons_self, rfl, by simp only [List.length_append]; omega, ?_⟩
        simp only [Nat.add_sub_cancel]
        rw [hall', List.length_append, Nat.add_sub_cancel_left, take_drop_mid]

theorem codeSectionBytes_split (fs : List EmittedFunc) :
    codeSectionBytes fs =
      ([10] ++ lebBytes (lebBytes fs.length ++ (fs.map EmittedFunc.entry).flatten).length ++ lebBytes fs.length)
        ++ (fs.map EmittedFunc.entry).flatten := by
  simp [codeSectionBytes, List.append_assoc]

theorem insertRange_eq_insertBy : insertRange = insertBy fun a b => decide (a.1 < b.1) := by
  funext r l
  induction l with
  | nil => rfl
  | cons x xs ih => simp [insertRange, insertBy, ih]

theorem mem_sortRanges {x : Nat × Nat × Nat} {l : List (Nat × Nat × Nat)} (h : x ∈ l.foldr insertRange []) : x ∈ l := by
  rw [insertRange_eq_insertBy] at h
  exact mem_sortBy.1 h

end Walrus
