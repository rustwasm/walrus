import Walrus.Proofs.Module

/-!
When a section outside the code section emits, for any maps: an element segment and a data segment are
written when every constant expression and every function they name is (a constant expression, when
every entity it names has an index: `mapCExpr_isSome_iff`).  `SectionsWF` is what validation guarantees
about which entities these sections may name.
-/
namespace Walrus

/-- constant expressions name globals and functions only -/
def cexprWF (c : CExprM) : Prop := ∀ op ∈ c, ∀ sp id, Arg.ref sp id ∈ op.args → sp = "g" ∨ sp = "f"

/-- segment offsets name globals only -/
def offsetWF (c : CExprM) : Prop := ∀ op ∈ c, ∀ sp id, Arg.ref sp id ∈ op.args → sp = "g"

theorem offsetWF_cexprWF (c : CExprM) (h : offsetWF c) : cexprWF c :=
  fun op hop sp id hr => Or.inl (h op hop sp id hr)

theorem rtElem_isSome (fm : List (Nat × Nat)) (maps : IdMaps) (e : ElemM)
    (hmode : ∀ t off, e.mode = .active t off → (mapCExpr maps off).isSome = true)
    (hfs : ∀ fs, e.items = .funcs fs → ∀ f ∈ fs, (assoc fm f).isSome = true)
    (hes : ∀ ty es, e.items = .exprs ty es → ∀ c ∈ es, (mapCExpr maps c).isSome = true) :
    (rtElem fm maps e).isSome = true := by
  have hmd : (rtElemMode maps e.mode).isSome = true := by
    cases hm : e.mode with
    | active t off => simpa [rtElemMode] using hmode t off hm
    | _ => rfl
  have hit : (rtElemItems fm maps e.items).isSome = true := by
    cases hi : e.items with
    | funcs fs => simpa [rtElemItems, mapM_isSome_iff] using hfs fs hi
    | exprs ty es => simpa [rtElemItems, mapM_isSome_iff] using hes ty es hi
  obtain ⟨md, hmd⟩ := Option.isSome_iff_exists.1 hmd
  obtain ⟨it, hit⟩ := Option.isSome_iff_exists.1 hit
  rw [rtElem_eq, hmd, hit]
  rfl

theorem rtData_isSome (maps : IdMaps) (d : DataM)
    (h : ∀ mem off, d.mode = .active mem off → (mapCExpr maps off).isSome = true) : (rtData maps d).isSome = true := by
  cases hm : d.mode with
  | passive => simp [rtData, hm]
  | active mem off => simpa [rtData, hm] using h mem off hm

/-- what validation guarantees about the shape of a module's references, beyond their being in
    range (`gcWF`) -/
structure SectionsWF (m : ModuleM) : Prop where
  exportKinds : ∀ e ∈ m.exports, e.2.1 ≠ "y"
  globalInits : ∀ gl ∈ m.globals, cexprWF gl.2
  dataOffsets : ∀ d ∈ m.datas, ∀ mem off, d.mode = .active mem off → offsetWF off
  elemOffsets : ∀ e ∈ m.elems, ∀ t off, e.mode = .active t off → offsetWF off
  elemItems : ∀ e ∈ m.elems, ∀ ty es, e.items = .exprs ty es → ∀ c ∈ es, cexprWF c
  importTypes : ∀ i ∈ m.imports, ∀ t, i.2.2 = .func t → t < m.sigs.length

end Walrus
