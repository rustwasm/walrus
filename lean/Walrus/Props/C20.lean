import Walrus.Proofs.Module

/-!
# C20 — the round trip never escalates the features a module needs

The emitter can only *introduce* a post-MVP construct at four places: the data-count section, the
flag (encoding) of an element segment, the flag of a data segment, and the block type of a
structured instruction. Everything else is the input's own operators and types (C03, C04). For
each of the four the model is proved not to escalate; whether the resulting module validates under
every feature set under which the input validates is decided by the reference validator in the
oracle (wasmparser is not modelled).
-/
namespace Walrus
namespace C20

/-- **element segments keep an MVP-compatible encoding**: an active segment of table 0 with
    function-index items is written with flag 0 (whether table 0 was implicit or explicit in the
    input), the funcref-expression form of table 0 with flag 4, passive / declared segments keep
    their bulk-memory flags -/
theorem element_encoding_not_escalated (m o : ModuleM) (h : roundTripModule m = some o)
    (k : Nat) (e : ElemM) (he : m.elems[k]? = some e) :
    ∃ e' : ElemM, o.elems[k]? = some e' ∧
      (match e.mode, e.items with
       | .active t _, .funcs _ => t.getD 0 = 0 → e'.flag = 0
       | .active t _, .exprs ty _ => t.getD 0 = 0 → ty = "funcref" → e'.flag = 4
       | .passive, .funcs _ => e'.flag = 1
       | .declared, .funcs _ => e'.flag = 3
       | .passive, .exprs _ _ => e'.flag = 5
       | .declared, .exprs _ _ => e'.flag = 7) :=
  (roundTrip_components m o h).elems k e he

/-- **data segments**: an active segment of memory 0 is written with flag 0 (MVP), of another
    memory with flag 2 (multi-memory, which the input then already needed), a passive one with 1 -/
theorem data_encoding_not_escalated (m o : ModuleM) (h : roundTripModule m = some o)
    (k : Nat) (d : DataM) (hd : m.datas[k]? = some d) :
    ∃ d' : DataM, o.datas[k]? = some d' ∧
      (match d.mode with
       | .passive => d'.flag = 1
       | .active 0 _ => d'.flag = 0
       | .active _ _ => d'.flag = 2) :=
  (roundTrip_components m o h).dataFlags k d hd

/-- no data-count section appears out of nothing -/
theorem no_data_count_without_data (m o : ModuleM) (h : roundTripModule m = some o) (hd : m.datas = []) :
    o.dataCount = none :=
  (roundTrip_components m o h).noDataNoCount hd

/-- a data-count section, when one is written, states exactly the number of data segments of the
    input — which is the number of data segments written (a count that disagreed with the data
    section would make the output invalid under every feature set) -/
theorem data_count_is_the_segment_count (m o : ModuleM) (h : roundTripModule m = some o) (n : Nat)
    (hn : o.dataCount = some n) : n = m.datas.length ∧ o.datas.length = n :=
  (roundTrip_components m o h).dataCountExact n hn

/-- **block types**: an empty or single-result block type is re-emitted in exactly that (MVP)
    form; a type-index block type is simplified to the MVP form whenever its signature allows it -/
theorem simple_block_types_stay_simple (e : PEnv) (im : IdMaps) (bt : BT) (ty : SeqTy)
    (hbt : bt = .empty ∨ ∃ t, bt = .val t) (h : seqTyOfBt e bt = some ty) :
    blockTy im ty = some (.bt bt) := by
  rcases hbt with rfl | ⟨t, rfl⟩
  all_goals simp [seqTyOfBt] at h; subst h; rfl

theorem index_block_type_simplified (e : PEnv) (im : IdMaps) (idx : Nat) (rs : List String)
    (hs : e.sigs[idx]? = some ([], rs)) (hr : rs.length ≤ 1) :
    ∃ ty, seqTyOfBt e (.idx idx) = some ty ∧
      (blockTy im ty = some (.bt .empty) ∨ ∃ t, blockTy im ty = some (.bt (.val t))) := by
  cases rs with
  | nil => exact ⟨.empty, by simp [seqTyOfBt, hs], Or.inl rfl⟩
  | cons r rs' =>
    cases rs' with
    | nil => exact ⟨.val r, by simp [seqTyOfBt, hs], Or.inr ⟨r, rfl⟩⟩
    | cons _ _ => exact absurd hr (by simp)

/-- non-vacuity: an input that writes table 0 explicitly (flag 2) comes out with the MVP flag 0 -/
example : (roundTripModule
    { sigs := [([], [])], funcs := [0], tables := [⟨"funcref", 1, none, false⟩],
      elems := [⟨2, .active (some 0) [⟨"I32Const", [.num 0]⟩], .funcs [0]⟩],
      code := [([], [(⟨"End", []⟩, 0)])] }).map (fun o => o.elems.map (·.flag)) = some [0] := by decide +kernel

end C20
end Walrus
