import Walrus.Code

/-!
Facts about the list functions the model is written with, each stated once: `assoc` and the tables
that number a list (the id → index maps; `AssocInj`: no two keys share an index), `List.mapM` in
`Option`, the positions of a list that pass a test, `sortBy`, folds that only add to their
accumulator, `eraseDups` and the first-occurrence de-duplication fold behind `distinctSigs` and
`distinctIds`, operand lists (`mapArgs` and `pMapArgs` as one `mapM`), and `List.modify` under `++`.
-/
namespace Walrus

theorem assoc_eq_lookup (l : List (Nat × Nat)) (k : Nat) : assoc l k = l.lookup k := by
  induction l with
  | nil => rfl
  | cons p r ih =>
    obtain ⟨a, b⟩ := p
    by_cases h : a = k
    · simp [assoc, h]
    · have : (k == a) = false := by simpa using fun e => h e.symm
      simp [assoc, List.lookup_cons, h, this, ih]

theorem assoc_append (a b : List (Nat × Nat)) (k : Nat) : assoc (a ++ b) k = (assoc a k).or (assoc b k) := by
  simp only [assoc_eq_lookup, List.lookup_append]

theorem assoc_isSome_iff (l : List (Nat × Nat)) (k : Nat) : (assoc l k).isSome = true ↔ k ∈ l.map (·.1) := by
  rw [assoc_eq_lookup, List.lookup_isSome_iff]
  simp only [beq_iff_eq, List.mem_map]
  exact ⟨fun ⟨p, hp, e⟩ => ⟨p, hp, e.symm⟩, fun ⟨p, hp, e⟩ => ⟨p, hp, e.symm⟩⟩

theorem assoc_eq_none_iff (l : List (Nat × Nat)) (k : Nat) : assoc l k = none ↔ k ∉ l.map (·.1) := by
  rw [← assoc_isSome_iff]; simp

theorem mem_of_assoc (l : List (Nat × Nat)) (k v : Nat) (h : assoc l k = some v) : (k, v) ∈ l := by
  rw [assoc_eq_lookup, List.lookup_eq_some_iff] at h
  obtain ⟨l₁, l₂, rfl, _⟩ := h
  simp

/-- the id → index maps the emitter builds all number a list: key of the element ↦ a function of its position -/
theorem assoc_zipIdx {α : Type} (key : α → Nat) (f : Nat → Nat) (l : List α) (s k : Nat) :
    assoc ((l.zipIdx s).map fun p => (key p.1, f p.2)) k = (l.findIdx? (key · == k)).map fun j => f (s + j) := by
  induction l generalizing s with
  | nil => rfl
  | cons a r ih =>
    simp only [List.zipIdx_cons, List.map_cons, assoc, List.findIdx?_cons, ih, beq_iff_eq]
    split
    · simp
    · simp only [Option.map_map]
      congr 1; funext j; simp only [Function.comp]; congr 1; omega

theorem keys_zipIdx_map {α : Type} {f : α × Nat → Nat × Nat} (key : α → Nat) (hf : ∀ p, (f p).1 = key p.1)
    (l : List α) (s : Nat) : ((l.zipIdx s).map f).map (·.1) = l.map key := by
  have : l.map key = ((l.zipIdx s).map Prod.fst).map key := by rw [List.zipIdx_map_fst]
  rw [this, List.map_map, List.map_map]
  exact List.map_congr_left fun p _ => hf p

theorem assoc_zipIdx_get {α : Type} (key : α → Nat) (f : Nat → Nat) {l : List α} {s k x : Nat}
    (h : assoc ((l.zipIdx s).map fun p => (key p.1, f p.2)) k = some x) :
    ∃ j a, l[j]? = some a ∧ key a = k ∧ x = f (s + j) := by
  simp only [assoc_zipIdx, Option.map_eq_some_iff, List.findIdx?_eq_some_iff_getElem, beq_iff_eq] at h
  obtain ⟨j, ⟨hj, hk, _⟩, rfl⟩ := h
  exact ⟨j, l[j], List.getElem?_eq_getElem hj, hk, rfl⟩

theorem assoc_zipIdx_getElem {α : Type} (key : α → Nat) (f : Nat → Nat) (l : List α) (s : Nat)
    (hnd : (l.map key).Nodup) (j : Nat) (hj : j < l.length) :
    assoc ((l.zipIdx s).map fun p => (key p.1, f p.2)) (key l[j]) = some (f (s + j)) := by
  rw [assoc_zipIdx, Option.map_eq_some_iff]
  refine ⟨j, ?_, rfl⟩
  rw [List.findIdx?_eq_some_iff_getElem]
  refine ⟨hj, by simp, fun i hi => ?_⟩
  have := (List.pairwise_iff_getElem.1 hnd) i j (by simpa using Nat.lt_trans hi hj) (by simpa using hj) hi
  simpa using this

theorem zipIdx_map_key {α β : Type} (ka : α → Nat) (kb : β → Nat) (ix : Nat → Nat) (l : List α) (l' : List β) (s : Nat)
    (h : l.map ka = l'.map kb) :
    (l.zipIdx s).map (fun p => (ka p.1, ix p.2)) = (l'.zipIdx s).map (fun p => (kb p.1, ix p.2)) := by
  -- numbering by a key is numbering the keys
  have e : ∀ {γ : Type} (k : γ → Nat) (l : List γ), (l.zipIdx s).map (fun p => (k p.1, ix p.2)) =
      ((l.map k).zipIdx s).map fun p => (p.1, ix p.2) := fun k l => by rw [List.zipIdx_map, List.map_map]; rfl
  rw [e ka, e kb, h]

def AssocInj (l : List (Nat × Nat)) : Prop := ∀ a b x : Nat, assoc l a = some x → assoc l b = some x → a = b

theorem assocInj_zipIdx {α : Type} (key : α → Nat) (f : Nat → Nat) (hf : ∀ i j, f i = f j → i = j) (l : List α) (s : Nat) :
    AssocInj ((l.zipIdx s).map fun p => (key p.1, f p.2)) := by
  intro a b x ha hb
  obtain ⟨i, u, hu, rfl, rfl⟩ := assoc_zipIdx_get key f ha
  obtain ⟨j, v, hv, rfl, hx⟩ := assoc_zipIdx_get key f hb
  have : i = j := by have := hf _ _ hx; omega
  subst this
  rw [hu] at hv
  rw [Option.some.inj hv]

theorem assocInj_append (a b : List (Nat × Nat)) (ha : AssocInj a) (hb : AssocInj b)
    (hab : ∀ k k' x, assoc a k = some x → assoc b k' = some x → False) : AssocInj (a ++ b) := by
  intro k k' x hk hk'
  rw [assoc_append] at hk hk'
  cases h1 : assoc a k <;> cases h2 : assoc a k' <;> simp only [h1, h2, Option.none_or, Option.some_or] at hk hk'
  · exact hb _ _ _ hk hk'
  · exact (hab _ _ _ (hk' ▸ h2) hk).elim
  · exact (hab _ _ _ (hk ▸ h1) hk').elim
  · exact ha _ _ _ (hk ▸ h1) (hk' ▸ h2)

theorem assoc_idMap {l : List Nat} {k x : Nat} (h : assoc (l.map fun i => (i, i)) k = some x) : x = k ∧ k ∈ l := by
  have := mem_of_assoc _ _ _ h
  simp only [List.mem_map, Prod.mk.injEq] at this
  obtain ⟨i, hi, rfl, rfl⟩ := this
  exact ⟨rfl, hi⟩

theorem assocInj_idMap (l : List Nat) : AssocInj (l.map fun i => (i, i)) := fun _ _ _ ha hb =>
  (assoc_idMap ha).1.symm.trans (assoc_idMap hb).1

theorem mapM_eq_some_iff {α β : Type} (f : α → Option β) (l : List α) (l' : List β) :
    l.mapM f = some l' ↔ l.map f = l'.map some := by
  induction l generalizing l' with
  | nil => cases l' <;> simp
  | cons a r ih =>
    cases l' with
    | nil => cases h : f a <;> cases h' : r.mapM f <;> simp [h, h']
    | cons b r' =>
      cases h : f a <;> cases h' : r.mapM f <;> simp [h, h', ← ih]

theorem mapM_some_length {α β : Type} {f : α → Option β} {l : List α} {l' : List β}
    (h : l.mapM f = some l') : l'.length = l.length := by
  simpa using (congrArg List.length ((mapM_eq_some_iff f l l').1 h)).symm

theorem mapM_some_get {α β : Type} {f : α → Option β} {l : List α} {l' : List β} (h : l.mapM f = some l')
    (k : Nat) (x : α) (hk : l[k]? = some x) : ∃ y, l'[k]? = some y ∧ f x = some y := by
  have := congrArg (·[k]?) ((mapM_eq_some_iff f l l').1 h)
  simp only [List.getElem?_map, hk, Option.map_some] at this
  cases hy : l'[k]? with
  | none => simp [hy] at this
  | some y => exact ⟨y, rfl, by simpa [hy] using this⟩

theorem mapM_some_get_out {α β : Type} {f : α → Option β} {l : List α} {l' : List β} (h : l.mapM f = some l')
    (k : Nat) (y : β) (hk : l'[k]? = some y) : ∃ x, l[k]? = some x ∧ f x = some y := by
  have := congrArg (·[k]?) ((mapM_eq_some_iff f l l').1 h)
  simpa [hk] using this

theorem mapM_some_get_none {α β : Type} {f : α → Option β} {l : List α} {l' : List β} (h : l.mapM f = some l')
    (k : Nat) (hk : l'[k]? = none) : l[k]? = none := by
  rw [List.getElem?_eq_none_iff] at hk ⊢
  exact mapM_some_length h ▸ hk

theorem mapM_some_map {α β γ : Type} {f : α → Option β} {l : List α} {l' : List β} (h : l.mapM f = some l')
    (ka : α → γ) (kb : β → γ) (hk : ∀ a b, f a = some b → kb b = ka a) : l'.map kb = l.map ka := by
  apply List.ext_getElem?
  intro k
  cases hy : l'[k]? with
  | none => simp [hy, mapM_some_get_none h k hy]
  | some y =>
    obtain ⟨x, hx, hf⟩ := mapM_some_get_out h k y hy
    simp [hy, hx, hk x y hf]

theorem mapM_some_all {α β : Type} {f : α → Option β} {l : List α} {l' : List β} (h : l.mapM f = some l')
    {R : α → β → Prop} (hR : ∀ x y, f x = some y → R x y) (k : Nat) (x : α) (hk : l[k]? = some x) :
    ∃ y, l'[k]? = some y ∧ R x y :=
  (mapM_some_get h k x hk).imp fun y hy => ⟨hy.1, hR x y hy.2⟩

theorem mapM_isSome_iff {α β : Type} (f : α → Option β) (l : List α) :
    (l.mapM f).isSome = true ↔ ∀ x ∈ l, (f x).isSome = true := by
  induction l with
  | nil => simp
  | cons a r ih =>
    rw [List.mapM_cons, List.forall_mem_cons, ← ih]
    cases f a <;> cases r.mapM f <;> simp

theorem mapM_inverse {α β : Type} {f : α → Option β} {g : β → Option α} (hfg : ∀ a b, f a = some b → g b = some a)
    {l : List α} {l' : List β} (h : l.mapM f = some l') : l'.mapM g = some l := by
  rw [mapM_eq_some_iff]
  apply List.ext_getElem?
  intro k
  rw [List.getElem?_map, List.getElem?_map]
  cases hy : l'[k]? with
  | none => rw [mapM_some_get_none h k hy]; rfl
  | some y =>
    obtain ⟨x, hx, hf⟩ := mapM_some_get_out h k y hy
    rw [hx]
    exact congrArg some (hfg x y hf)

/-- `(l.zipIdx.filter P).map (·.1)` is how the sweep of the GC pass selects what it keeps -/
theorem mem_zipIdx_filter {α : Type} (l : List α) (P : α × Nat → Bool) (x : α) :
    x ∈ (l.zipIdx.filter P).map (·.1) ↔ ∃ k, l[k]? = some x ∧ P (x, k) = true := by
  simp only [List.mem_map, List.mem_filter, Prod.exists, List.mk_mem_zipIdx_iff_getElem?]
  exact ⟨fun ⟨a, k, ⟨hk, hP⟩, e⟩ => ⟨k, e ▸ hk, e ▸ hP⟩, fun ⟨k, hk, hP⟩ => ⟨x, k, ⟨hk, hP⟩, rfl⟩⟩

theorem mapM_kept_isSome {α β : Type} (l : List α) (P : α × Nat → Bool) (f : α → Option β)
    (h : ∀ k x, l[k]? = some x → P (x, k) = true → (f x).isSome = true) :
    (((l.zipIdx.filter P).map (·.1)).mapM f).isSome = true := by
  rw [mapM_isSome_iff]
  intro x hx
  obtain ⟨k, hk, hP⟩ := (mem_zipIdx_filter l P x).1 hx
  exact h k x hk hP

theorem insertBy_perm {α : Type} (le : α → α → Bool) (x : α) : ∀ (l : List α), (insertBy le x l).Perm (x :: l)
  | [] => by simp [insertBy]
  | y :: r => by
    simp only [insertBy]
    split
    · exact List.Perm.refl _
    · exact ((insertBy_perm le x r).cons y).trans (List.Perm.swap x y r)

theorem sortBy_perm {α : Type} (le : α → α → Bool) (l : List α) : (sortBy le l).Perm l := by
  induction l with
  | nil => simp [sortBy]
  | cons x xs ih =>
    simp only [sortBy, List.foldr_cons] at ih ⊢
    exact (insertBy_perm le x _).trans (ih.cons x)

theorem mem_sortBy {α : Type} {le : α → α → Bool} {y : α} {l : List α} : y ∈ sortBy le l ↔ y ∈ l :=
  (sortBy_perm le l).mem_iff

theorem length_sortBy {α : Type} (le : α → α → Bool) (l : List α) : (sortBy le l).length = l.length :=
  (sortBy_perm le l).length_eq

theorem nodup_keys_filterMap {α β : Type} (f : α → Option β) (key : β → Nat) (l : List α) (hn : l.Nodup)
    (h : ∀ a a' b b', f a = some b → f a' = some b' → key b = key b' → a = a') : ((l.filterMap f).map key).Nodup :=
  List.Pairwise.map key (fun _ _ hbb' => hbb')
    (List.Pairwise.filterMap (S := fun b b' => key b ≠ key b') f
      (fun a a' hne b hb b' hb' e => hne (h a a' b b' hb hb' e)) hn)

theorem mem_foldl_adds {α β : Type} (F : List α → β → List α) (P : β → α → Prop)
    (hF : ∀ acc e x, x ∈ F acc e ↔ x ∈ acc ∨ P e x) (x : α) : ∀ (l : List β) (acc : List α),
    x ∈ l.foldl F acc ↔ x ∈ acc ∨ ∃ e ∈ l, P e x
  | [], acc => by simp
  | e :: r, acc => by
    rw [List.foldl_cons, mem_foldl_adds F P hF x r, hF]
    simp only [List.mem_cons, exists_eq_or_imp, or_assoc]

theorem eraseDups_nodup {α : Type} [BEq α] [LawfulBEq α] : ∀ (l : List α), l.eraseDups.Nodup
  | [] => by simp
  | a :: as => by
    rw [List.eraseDups_cons, List.nodup_cons]
    exact ⟨fun hm => by simpa using (List.mem_filter.1 (List.mem_eraseDups.1 hm)).2, eraseDups_nodup _⟩
termination_by l => l.length
decreasing_by exact Nat.lt_succ_of_le (List.length_filter_le _ _)

section distinct
variable {α : Type} [BEq α] [LawfulBEq α]

theorem mem_foldl_distinct (l : List α) (x : α) (acc : List α) :
    x ∈ l.foldl (fun seen s => if seen.contains s then seen else seen ++ [s]) acc ↔ x ∈ acc ∨ x ∈ l := by
  rw [mem_foldl_adds _ (fun e x => x = e)]
  · simp
  · intro acc e y
    split
    · rename_i h
      exact ⟨Or.inl, fun h' => h'.elim id fun he => he ▸ by simpa using h⟩
    · simp

theorem nodup_foldl_distinct (l : List α) : ∀ (acc : List α), acc.Nodup →
    (l.foldl (fun seen s => if seen.contains s then seen else seen ++ [s]) acc).Nodup := by
  induction l with
  | nil => intro acc h; exact h
  | cons a r ih =>
    intro acc h
    rw [List.foldl_cons]
    apply ih
    split
    · exact h
    · rename_i hc
      rw [List.nodup_append]
      exact ⟨h, by simp, fun x hx y hy e => hc (by rw [← List.mem_singleton.1 hy, ← e]; simpa using hx)⟩

theorem foldl_distinct_of_nodup (l : List α) : ∀ (acc : List α), (acc ++ l).Nodup →
    l.foldl (fun seen s => if seen.contains s then seen else seen ++ [s]) acc = acc ++ l := by
  induction l with
  | nil => simp
  | cons a r ih =>
    intro acc h
    have hna : ¬ acc.contains a = true := fun hc =>
      (List.nodup_append.1 h).2.2 a (by simpa using hc) a List.mem_cons_self rfl
    rw [List.foldl_cons, if_neg hna, ih _ (by simpa using h)]
    simp

theorem length_foldl_distinct_le (l : List α) : ∀ (acc : List α),
    (l.foldl (fun seen s => if seen.contains s then seen else seen ++ [s]) acc).length ≤ acc.length + l.length := by
  induction l with
  | nil => simp
  | cons a r ih =>
    intro acc
    rw [List.foldl_cons]
    split
    · exact Nat.le_trans (ih _) (by simp)
    · exact Nat.le_trans (ih _) (by simp; omega)

end distinct

/-- `mapArgs` (emit: ids to indices) and `pMapArgs` (parse: indices to ids) are one function, `mapM` of
    this renumbering of an entity operand, at two lookups -/
def mapRef (get : String → Nat → Option Nat) : Arg → Option Arg
  | .ref sp i => (get sp i).map (.ref sp)
  | a => some a

theorem mapArgs_eq_mapM (m : IdMaps) : ∀ (args : List Arg), mapArgs m args = args.mapM (mapRef m.get)
  | [] => rfl
  | a :: r => by
    cases a <;> simp only [mapArgs, mapRef, List.mapM_cons, mapArgs_eq_mapM m r]
    · cases m.get _ _ <;> cases r.mapM (mapRef m.get) <;> rfl
    all_goals cases r.mapM (mapRef m.get) <;> rfl

theorem pMapArgs_eq_mapM (e : PEnv) : ∀ (args : List Arg), pMapArgs e args = args.mapM (mapRef e.get)
  | [] => rfl
  | a :: r => by
    cases a <;> simp only [pMapArgs, mapRef, List.mapM_cons, pMapArgs_eq_mapM e r]
    · cases e.get _ _ <;> cases r.mapM (mapRef e.get) <;> rfl
    all_goals cases r.mapM (mapRef e.get) <;> rfl

section mapRef
variable (get : String → Nat → Option Nat)

theorem mapRef_mapM_isSome_iff (args : List Arg) :
    (args.mapM (mapRef get)).isSome = true ↔ ∀ sp i, Arg.ref sp i ∈ args → (get sp i).isSome = true := by
  rw [mapM_isSome_iff]
  constructor
  · intro h sp i hm
    simpa [mapRef] using h _ hm
  · intro h a ha
    cases a with
    | ref sp i => simpa [mapRef] using h sp i ha
    | _ => rfl

theorem mapRef_mapM_fix (args : List Arg) (h : ∀ sp i, Arg.ref sp i ∈ args → get sp i = some i) :
    args.mapM (mapRef get) = some args := by
  rw [mapM_eq_some_iff, List.map_congr_left (g := some)]
  intro a ha
  cases a with
  | ref sp i => simp [mapRef, h sp i ha]
  | _ => rfl

theorem mapRef_mapM_refs (args out : List Arg) (h : args.mapM (mapRef get) = some out) (sp : String) (n : Nat)
    (hm : Arg.ref sp n ∈ out) : ∃ i, Arg.ref sp i ∈ args ∧ get sp i = some n := by
  obtain ⟨k, hk⟩ := List.getElem?_of_mem hm
  obtain ⟨a, ha, hf⟩ := mapM_some_get_out h k _ hk
  cases a with
  | ref sp' i =>
    simp only [mapRef, Option.map_eq_some_iff, Arg.ref.injEq] at hf
    obtain ⟨j, hj, rfl, rfl⟩ := hf
    exact ⟨i, List.mem_of_getElem? ha, hj⟩
  | _ => cases hf

end mapRef

theorem pMapArgs_fix (e : PEnv) (args : List Arg) (h : ∀ sp i, Arg.ref sp i ∈ args → e.get sp i = some i) :
    pMapArgs e args = some args :=
  (pMapArgs_eq_mapM e args).trans (mapRef_mapM_fix e.get args h)

theorem mapArgs_fix (m : IdMaps) (args : List Arg) (h : ∀ sp i, Arg.ref sp i ∈ args → m.get sp i = some i) :
    mapArgs m args = some args :=
  (mapArgs_eq_mapM m args).trans (mapRef_mapM_fix m.get args h)

theorem modify_append_left {α : Type} {l₁ : List α} {i : Nat} (h : i < l₁.length) (l₂ : List α) (f : α → α) :
    (l₁ ++ l₂).modify i f = l₁.modify i f ++ l₂ := by
  induction l₁ generalizing i with
  | nil => simp at h
  | cons a r ih => cases i with
    | zero => rfl
    | succ i => simp [ih (Nat.lt_of_succ_lt_succ h)]

theorem modify_append_cons {α : Type} {l₁ : List α} {i : Nat} (h : l₁.length = i) (x : α) (l₂ : List α) (f : α → α) :
    (l₁ ++ x :: l₂).modify i f = l₁ ++ f x :: l₂ := by
  subst h
  induction l₁ with
  | nil => rfl
  | cons a r ih => simp [ih]

end Walrus
