import Walrus.Replace

/-!
# C18 — function replacement edits rewire exactly one thing

The edits are specified on the interpreter's view of the module (`Walrus/Replace.lean`); the
theorems say what the specification changes and what it leaves alone.  The tie to the code is
behavioural and checked on every case: the harness performs the real edit through the public API
with a generated body, emits, decodes the output independently, and the Lean interpreter must
observe the *specified* module and the *real output* identically (results, traps, host trace,
exported state); the output must validate, the import list must be the input's minus exactly the
replaced import, the export list must keep names, kinds and order.
-/
namespace Walrus
namespace C18
open Walrus.Sem

theorem replaceImported_some {E E' : Env} {k : Nat} {body : SL} {extra : List String}
    (h : E.replaceImported k body extra = some E') :
    ∃ u fi, E.ftab[k]? = some u ∧ E.ufuncs[u]? = some fi ∧ fi.imp.isSome = true ∧
      E' = { E with ufuncs := E.ufuncs.set u ⟨fi.sig, none, replLt fi extra, body⟩ } := by
  unfold Env.replaceImported at h
  cases hk : E.ftab[k]? with
  | none => simp [hk] at h
  | some u =>
    cases hu : E.ufuncs[u]? with
    | none => simp [hk, hu] at h
    | some fi =>
      simp only [hk, hu, Option.bind_some, Option.map_some] at h
      split at h
      · exact ⟨u, fi, rfl, hu, ‹_›, (Option.some.inj h).symm⟩
      · cases h

/-- replacing an imported function: the index keeps naming the same identifier (uid), which now
    runs the new body, with the old signature and parameters … -/
theorem imported_keeps_identifier_and_signature (E E' : Env) (k : Nat) (body : SL) (extra : List String)
    (h : E.replaceImported k body extra = some E') :
    ∃ u fi, E.ftab[k]? = some u ∧ E.ufuncs[u]? = some fi ∧ fi.imp.isSome = true ∧ E'.ftab = E.ftab ∧
      E'.ufuncs[u]? = some ⟨fi.sig, none, fi.lt.take fi.sig.1.length ++ scratchLt extra, body⟩ := by
  obtain ⟨u, fi, hk, hu, hi, rfl⟩ := replaceImported_some h
  have hlt : u < E.ufuncs.length := (List.getElem?_eq_some_iff.1 hu).1
  exact ⟨u, fi, hk, hu, hi, rfl, by simp [hlt, replLt]⟩

/-- … every other function, the signature of every function, the index table and the type section
    are untouched: callers, element segments, exports and the start section (which all go through
    the index table) now reach the new body and nothing else changed -/
theorem imported_changes_nothing_else (E E' : Env) (k : Nat) (body : SL) (extra : List String)
    (h : E.replaceImported k body extra = some E') :
    E'.types = E.types ∧ E'.ftab = E.ftab ∧ E'.usigs = E.usigs ∧ E'.ufuncs.length = E.ufuncs.length ∧
    ∀ u, E.ftab[k]? ≠ some u → E'.ufuncs[u]? = E.ufuncs[u]? := by
  obtain ⟨u, fi, hk, hu, _, rfl⟩ := replaceImported_some h
  refine ⟨rfl, rfl, ?_, by simp, ?_⟩
  · -- the overwritten entry keeps its signature
    obtain ⟨hlt, hget⟩ := List.getElem?_eq_some_iff.1 hu
    apply List.ext_getElem?
    intro j
    by_cases hj : u = j
    · subst hj; simp [Env.usigs, hlt, ← hget]
    · simp [Env.usigs, hj]
  · intro j hj
    have : u ≠ j := fun e => hj (by rw [hk, e])
    simp [this]

/-- a function that is not imported cannot be replaced this way -/
theorem imported_only (E : Env) (k u : Nat) (body : SL) (extra : List String) (fi : FuncInfo)
    (hk : E.ftab[k]? = some u) (hu : E.ufuncs[u]? = some fi) (hl : fi.imp = none) :
    E.replaceImported k body extra = none := by
  simp [Env.replaceImported, hk, hu, hl]

theorem firstExportOf_lt {m : ModuleM} {f ex : Nat} (h : firstExportOf m f = some ex) : ex < m.exports.length := by
  unfold firstExportOf at h
  simp only at h
  split at h
  · cases h; assumption
  · cases h

theorem replaceExported_some {m m' : ModuleM} {E E' : Env} {f : Nat} {body : SL} {extra : List String}
    (h : replaceExported m E f body extra = some (m', E')) :
    ∃ ex fi, firstExportOf m f = some ex ∧ ((E.ftab[f]?).bind fun u => E.ufuncs[u]?) = some fi ∧
      m' = { m with exports := m.exports.set ex ((m.exports[ex]?.map (·.1)).getD "", "f", E.ftab.length) } ∧
      E' = { E with ftab := E.ftab ++ [E.ufuncs.length],
                    ufuncs := E.ufuncs ++ [⟨fi.sig, none, replLt fi extra, body⟩] } := by
  unfold replaceExported at h
  split at h
  · split at h
    · cases h
    · cases h; exact ⟨_, _, ‹_›, ‹_›, rfl, rfl⟩
  · cases h

/-- replacing an exported function: exactly one export entry changes (same name, now the new
    index), the index table is extended by one entry naming a new identifier, the original function
    and every existing function stay where they are — internal callers keep reaching the original —
    and the new function has the original's signature -/
theorem exported_retargets_one_export (m m' : ModuleM) (E E' : Env) (f : Nat) (body : SL) (extra : List String)
    (h : replaceExported m E f body extra = some (m', E')) :
    ∃ ex fi, firstExportOf m f = some ex ∧ ((E.ftab[f]?).bind fun u => E.ufuncs[u]?) = some fi ∧
      m'.exports.length = m.exports.length ∧
      (∀ j, j ≠ ex → m'.exports[j]? = m.exports[j]?) ∧
      m'.exports[ex]? = some ((m.exports[ex]?.map (·.1)).getD "", "f", E.ftab.length) ∧
      (∀ j, j < E.ftab.length → E'.ftab[j]? = E.ftab[j]?) ∧
      E'.ftab[E.ftab.length]? = some E.ufuncs.length ∧
      (∀ u, u < E.ufuncs.length → E'.ufuncs[u]? = E.ufuncs[u]?) ∧
      E'.ufuncs[E.ufuncs.length]? = some ⟨fi.sig, none, fi.lt.take fi.sig.1.length ++ scratchLt extra, body⟩ ∧
      m'.start = m.start ∧ m'.elems = m.elems ∧ m'.code = m.code ∧ m'.imports = m.imports := by
  obtain ⟨ex, fi, he, hf, rfl, rfl⟩ := replaceExported_some h
  have hex := firstExportOf_lt he
  refine ⟨ex, fi, he, hf, by simp, fun j hj => ?_, by simp [hex], fun j hj => ?_, by simp, fun j hj => ?_,
    by simp [replLt], rfl, rfl, rfl, rfl⟩
  · simp [Ne.symm hj]
  · simp [List.getElem?_append_left hj]
  · simp [List.getElem?_append_left hj]

-- non-vacuity
def env2 : Env := ⟨[([], [])], [0, 1], [⟨([], []), some ("env", "f"), [], .nil⟩, ⟨([], []), none, [], .nil⟩]⟩
example : (env2.replaceImported 0 (.cons (.op ⟨"Nop", []⟩) .nil)).isSome = true := by decide +kernel
example : (env2.replaceImported 1 .nil).isNone = true := by decide +kernel
example : (replaceExported { exports := [("a", "f", 1), ("b", "f", 1)] } env2 1 .nil).map (·.1.exports) =
    some [("a", "f", 2), ("b", "f", 1)] := by decide +kernel

end C18
end Walrus
