import Walrus.Proofs.Bridge
import Walrus.BodiesOK

/-!
The renumbering the emission maps induce.  `Proofs/Bridge.lean` shows that what `emit ∘ parse`
writes for a body reads as `ren ρ (elide t)` for every `ρ` that agrees with the parse-time
environment and the emit-time maps on the surviving leaves (`agreeL`).  Here: for operators of the
shape the decoder produces (`opShapedB`), the renumbering read off those maps themselves
(`renOfMaps`) always agrees — so the hypothesis is not a per-case matter.
-/
namespace Walrus
open Sem (SI SL Ren structuralName isLocalOp isSpecial)

/-- the renumbering of functions, types, locals and block types that parse followed by emit applies -/
def renOfMaps (e : PEnv) (m : IdMaps) : Ren where
  f := fun i => ((e.get "f" i).bind (m.get "f")).getD i
  y := fun i => ((e.get "y" i).bind (m.get "y")).getD i
  x := fun i => ((e.get "x" i).bind (m.get "x")).getD i
  bt := fun b => match (seqTyOfBt e b).bind (blockTy m) with
    | some (.bt b') => b'
    | _ => b

/-- the operand shape of an operator as the decoder produces it: labels on the branch operators, a
    function index on calls and `ref.func`, a type and a table on indirect calls, a local on the local
    operators, and otherwise only tables, globals, memories and segments (and memarg offsets below
    2^32, which `ir::MemArg` can hold — finding D5 is about the others) -/
inductive OpShape : Op → Prop
  | br (n : Nat) : OpShape ⟨"Br", [.ref "l" n]⟩
  | brIf (n : Nat) : OpShape ⟨"BrIf", [.ref "l" n]⟩
  | brTable (ts : List Nat) (d : Nat) : OpShape ⟨"BrTable", ts.map (Arg.ref "l") ++ [.ref "l" d]⟩
  | ret : OpShape ⟨"Return", []⟩
  | unreachable : OpShape ⟨"Unreachable", []⟩
  | call (name : String) (h : name = "Call" ∨ name = "RefFunc" ∨ name = "ReturnCall") (i : Nat) :
      OpShape ⟨name, [.ref "f" i]⟩
  | callIndirect (name : String) (h : name = "CallIndirect" ∨ name = "ReturnCallIndirect") (y t : Nat) :
      OpShape ⟨name, [.ref "y" y, .ref "t" t]⟩
  | local_ (name : String) (h : name = "LocalGet" ∨ name = "LocalSet" ∨ name = "LocalTee") (x : Nat) :
      OpShape ⟨name, [.ref "x" x]⟩
  | other (name : String) (args : List Arg)
      (hname : name ≠ "Br" ∧ name ≠ "BrIf" ∧ name ≠ "BrTable" ∧ name ≠ "Return" ∧ name ≠ "Unreachable" ∧ name ≠ "Nop" ∧
        name ≠ "Call" ∧ name ≠ "RefFunc" ∧ name ≠ "ReturnCall" ∧ name ≠ "CallIndirect" ∧ name ≠ "ReturnCallIndirect" ∧
        name ≠ "LocalGet" ∧ name ≠ "LocalSet" ∧ name ≠ "LocalTee")
      (hall : (args.all fun a => match a with | .ref sp _ => idSpace sp | _ => true) = true)
      (hw : wrapOffsets args = args) : OpShape ⟨name, args⟩

theorem penv_get_id (e : PEnv) (sp : String) (i : Nat) (h : idSpace sp = true) : e.get sp i = some i := by
  simp only [idSpace, Bool.or_eq_true, decide_eq_true_eq] at h
  rcases h with (((rfl | rfl) | rfl) | rfl) | rfl <;> simp [PEnv.get]

theorem idArgs_pass (e : PEnv) (m : IdMaps) (hid : ∀ sp i, idSpace sp = true → m.get sp i = some i)
    (args : List Arg) (h : (args.all fun a => match a with | .ref sp _ => idSpace sp | _ => true) = true) :
    pMapArgs e args = some args ∧ mapArgs m args = some args := by
  have hsp : ∀ sp i, Arg.ref sp i ∈ args → idSpace sp = true := fun sp i hi => List.all_eq_true.1 h _ hi
  exact ⟨pMapArgs_fix e args fun sp i hi => penv_get_id e sp i (hsp sp i hi),
    mapArgs_fix m args fun sp i hi => hid sp i (hsp sp i hi)⟩

theorem labelsOf_labels (name : String) (ls : List Nat) : labelsOf ⟨name, ls.map (Arg.ref "l")⟩ = ls := by
  induction ls with
  | nil => rfl
  | cons a r ih =>
    simp only [labelsOf, List.map_cons, List.filterMap_cons] at ih ⊢
    rw [ih]

/-- if a surviving operator has the decoder's shape and the two maps answer for it, what
    `emit ∘ parse` writes for it is the operator renumbered by `renOfMaps` -/
theorem agree_op (e : PEnv) (m : IdMaps) (hid : ∀ sp i, idSpace sp = true → m.get sp i = some i) (o : Op)
    (hs : structuralName o.name = false) (hsh : OpShape o)
    (hsome : (outLeafOps e m o).isSome = true) : agreeI e m (renOfMaps e m) (.op o) = true := by
  simp only [agreeI, hs, Bool.not_false, Bool.true_and, beq_iff_eq]
  cases hsh with
  | br n => simp [outLeafOps, outLeaf, labelsOf, Ren.op, isLocalOp]
  | brIf n => simp [outLeafOps, outLeaf, labelsOf, Ren.op, isLocalOp]
  | brTable ts d =>
    have hlab : labelsOf ⟨"BrTable", ts.map (Arg.ref "l") ++ [.ref "l" d]⟩ = ts ++ [d] := by
      have := labelsOf_labels "BrTable" (ts ++ [d])
      simpa using this
    simp [outLeafOps, outLeaf, hlab, Ren.op, isLocalOp]
  | ret => simp [outLeafOps, outLeaf, mapArgs, Ren.op, isLocalOp]
  | unreachable => simp [outLeafOps, outLeaf, mapArgs, Ren.op, isLocalOp]
  | call name h i =>
    rw [outLeafOps_plain e m _ (by rcases h with rfl | rfl | rfl <;> simp)] at hsome ⊢
    simp only [outArgs_ref, Option.isSome_map] at hsome ⊢
    obtain ⟨j, hj⟩ := Option.isSome_iff_exists.1 hsome
    rw [Ren.op_func _ h]
    simp [hj, renOfMaps]
  | callIndirect name h y t =>
    rw [outLeafOps_plain e m _ (by rcases h with rfl | rfl <;> simp)] at hsome ⊢
    simp only [outArgs, wrapOffsets, pMapArgs, penv_get_id e "t" t rfl] at hsome ⊢
    cases h1 : e.get "y" y with
    | none => simp [h1] at hsome
    | some id =>
      cases h2 : m.get "y" id with
      | none => simp [mapArgs, h1, h2, hid "t" t rfl] at hsome
      | some ix =>
        rw [Ren.op_type _ h]
        simp [mapArgs, h1, h2, hid "t" t rfl, renOfMaps]
  | local_ name h x =>
    rw [outLeafOps_plain e m _ (by rcases h with rfl | rfl | rfl <;> simp)] at hsome ⊢
    simp only [outArgs_ref, Option.isSome_map] at hsome ⊢
    obtain ⟨j, hj⟩ := Option.isSome_iff_exists.1 hsome
    rw [Ren.op_local _ h]
    simp [hj, renOfMaps]
  | other name args hname hall hw =>
    obtain ⟨n1, n2, n3, n4, n5, n6, n7, n8, n9, n10, n11, n12, n13, n14⟩ := hname
    obtain ⟨hp, hm⟩ := idArgs_pass e m hid args hall
    -- `outLeaf` does not treat the operator apart, `Ren.op` does not touch it, and both maps pass its operands
    have hsp : isSpecial name = false := by simp [isSpecial, n7, n8, n9, n10, n11, n12, n13, n14]
    rw [outLeafOps_plain e m ⟨name, args⟩ ⟨n1, n2, n3, n4, n5, n6⟩, Ren.op_plain _ ⟨name, args⟩ hsp]
    simp [outArgs, hw, hp, hm]

theorem blockTy_form (m : IdMaps) (ty : SeqTy) (a : Arg) (h : blockTy m ty = some a) : ∃ b, a = .bt b := by
  cases ty with
  | empty => simp [blockTy] at h; exact ⟨_, h.symm⟩
  | val t => simp [blockTy] at h; exact ⟨_, h.symm⟩
  | multi y =>
    simp only [blockTy, Option.map_eq_some_iff] at h
    obtain ⟨ix, _, rfl⟩ := h
    exact ⟨_, rfl⟩

theorem outBtOf_ren (e : PEnv) (m : IdMaps) (bt : BT) (a : Arg) (h : outBtOf e m bt = some a) :
    outBtOf e m bt = some (.bt ((renOfMaps e m).bt bt)) := by
  unfold outBtOf at h ⊢
  cases hs : seqTyOfBt e bt with
  | none => simp [hs] at h
  | some ty =>
    simp only [hs, Option.bind_some] at h ⊢
    obtain ⟨b, rfl⟩ := blockTy_form m ty a h
    simp [renOfMaps, hs, h]

theorem outBt_agree (e : PEnv) (m : IdMaps) (o : Op) (a : Arg) (h : outBt e m o = some a) :
    (outBtOf e m (Sem.btOf o) == some (.bt ((renOfMaps e m).bt (Sem.btOf o)))) = true := by
  rw [outBtOf_ren e m _ a (outBtOf_of_outBt h)]
  simp

-- the operators of a body have the decoder's shape (`nop`s aside, which leave no trace)
mutual
def PI.Shaped : PI → Prop
  | .op o _ => o.name = "Nop" ∨ OpShape o
  | .blk _ _ b _ => b.Shaped
  | .if1 _ _ t _ => t.Shaped
  | .if2 _ _ t _ e _ => t.Shaped ∧ e.Shaped
def PL.Shaped : PL → Prop
  | .nil => True
  | .cons h t => h.Shaped ∧ t.Shaped
end

theorem live_shaped_cons {h : PI} {t : PL} (hs : (PL.cons h t).live.Shaped) :
    h.live.Shaped ∧ ((∀ o loc, h = .op o loc → transfers o.name = false) → t.live.Shaped) := by
  cases h with
  | op o loc =>
    simp only [PL.live] at hs
    by_cases ht : transfers o.name = true
    · rw [if_pos ht] at hs
      exact ⟨hs.1, fun hk => absurd ht (Bool.eq_false_iff.1 (hk o loc rfl))⟩
    · rw [if_neg ht] at hs
      exact ⟨hs.1, fun _ => hs.2⟩
  | blk o loc b el => exact ⟨hs.1, fun _ => hs.2⟩
  | if1 o loc b el => exact ⟨hs.1, fun _ => hs.2⟩
  | if2 o loc b l2 f el => exact ⟨hs.1, fun _ => hs.2⟩

mutual
theorem agreeSrc_I_all (e : PEnv) (m : IdMaps) (hid : ∀ sp i, idSpace sp = true → m.get sp i = some i) :
    (i : PI) → i.WF → i.live.Shaped → (∀ o loc, i = .op o loc → o.name ≠ "Nop") → ∀ (ops : List (Nat × Op)) (u : Bool),
    outI e m false i = some (ops, u) → agreeI e m (renOfMaps e m) i.toSem.elide = true
  | .op o loc, hw, hsh, hn, ops, u, ho => by
      have hl := (outI_op_some ho).1
      rw [outLeaf_eq_map] at hl
      have hsome : (outLeafOps e m o).isSome = true := by simpa using congrArg Option.isSome hl
      exact agree_op e m hid o (isStructural_eq _ ▸ hw) (hsh.resolve_left (hn o loc rfl)) hsome
  | .blk o loc b el, hw, hsh, _, ops, u, ho => by
      obtain ⟨a, body, ub, h1, h2, _, _⟩ := outI_blk_some ho
      have ih := agreeSrc_L e m hid b hw.2 hsh body ub h2
      have hbt := outBt_agree e m o a h1
      simp only [PI.toSem]
      split <;> simp [SI.elide, agreeI, hbt, ih]
  | .if1 o loc t el, hw, hsh, _, ops, u, ho => by
      obtain ⟨a, tb, ub, h1, h2, _, _⟩ := outI_if1_some ho
      simp [PI.toSem, SI.elide, SL.elide, agreeI, agreeL, outBt_agree e m o a h1, agreeSrc_L e m hid t hw.2 hsh tb ub h2]
  | .if2 o loc t l2 f el, hw, hsh, _, ops, u, ho => by
      obtain ⟨a, tb, ub, fb, uf, h1, h2, h3, _, _⟩ := outI_if2_some ho
      simp [PI.toSem, SI.elide, agreeI, outBt_agree e m o a h1, agreeSrc_L e m hid t hw.2.1 hsh.1 tb ub h2,
        agreeSrc_L e m hid f hw.2.2 hsh.2 fb uf h3]
theorem agreeSrc_L (e : PEnv) (m : IdMaps) (hid : ∀ sp i, idSpace sp = true → m.get sp i = some i) :
    (l : PL) → l.WF → l.live.Shaped → ∀ (ops : List (Nat × Op)) (u : Bool),
    outL e m false l = some (ops, u) → agreeL e m (renOfMaps e m) l.toSem.elide = true
  | .nil, _, _, _, _, _ => by simp [PL.toSem, SL.elide, agreeL]
  | .cons h t, hw, hsh, ops, u, ho => by
      obtain ⟨hsh1, hsh2⟩ := live_shaped_cons hsh
      have ihI := agreeSrc_I_all e m hid h hw.1 hsh1
      have ihL := agreeSrc_L e m hid t hw.2
      rcases outL_cons_elide ho with ⟨o, loc, rfl, hn, h2, he⟩ | ⟨o, loc, rfl, hn, h1, he⟩ | ⟨o1, o2, h1, h2, rfl, hk, he⟩ <;>
        rw [he]
      · exact ihL (hsh2 fun _ _ hh => by cases hh; exact transfers_nop hn) ops u h2
      · have := ihI (fun _ _ hh => by cases hh; exact hn) ops true h1
        simpa [agreeL, PI.toSem, SI.elide] using this
      · simp [agreeL, ihI (fun o loc hh => (hk o loc hh).1) o1 false h1,
          ihL (hsh2 fun o loc hh => (hk o loc hh).2) o2 u h2]
end

theorem agreeSrc_I (e : PEnv) (m : IdMaps) (hid : ∀ sp i, idSpace sp = true → m.get sp i = some i) :
    (i : PI) → i.WF → i.live.Shaped → i.isOp = false → ∀ (ops : List (Nat × Op)) (u : Bool),
    outI e m false i = some (ops, u) → agreeI e m (renOfMaps e m) i.toSem.elide = true :=
  fun i hw hsh hh => agreeSrc_I_all e m hid i hw hsh fun _ _ hi => by subst hi; cases hh

theorem argIs_ref (sp : String) (a : Arg) (h : argIs sp a = true) : ∃ n, a = .ref sp n := by
  cases a with
  | ref s n => simp only [argIs, beq_iff_eq] at h; subst h; exact ⟨n, rfl⟩
  | num n => simp [argIs] at h
  | imm t => simp [argIs] at h
  | bt b => simp [argIs] at h

theorem all_labels (args : List Arg) (h : args.all (argIs "l") = true) : ∃ ls : List Nat, args = ls.map (Arg.ref "l") := by
  induction args with
  | nil => exact ⟨[], rfl⟩
  | cons a r ih =>
    simp only [List.all_cons, Bool.and_eq_true] at h
    obtain ⟨n, rfl⟩ := argIs_ref "l" a h.1
    obtain ⟨ls, rfl⟩ := ih h.2
    exact ⟨n :: ls, rfl⟩

/-- the test `opShapedB` makes of the operand list of an operator with one entity operand -/
theorem single_ref {sp : String} {args : List Arg} (h : (match args with | [a] => argIs sp a | _ => false) = true) :
    ∃ n, args = [.ref sp n] := by
  rcases args with _ | ⟨a, _ | ⟨b, r⟩⟩
  · cases h
  · obtain ⟨n, rfl⟩ := argIs_ref sp a h
    exact ⟨n, rfl⟩
  · cases h

theorem opShapedB_sound (o : Op) (h : opShapedB o = true) : o.name = "Nop" ∨ OpShape o := by
  -- the `if` chain of `opShapedB`, arm by arm (`by_cases` and `rw [if_pos/if_neg]`: `split` on a chain this
  -- long is slow); in each arm the test on the operand list leaves one shape
  obtain ⟨name, args⟩ := o
  simp only [opShapedB, Bool.or_eq_true, decide_eq_true_eq] at h
  by_cases h0 : name = "Nop"
  · exact .inl h0
  right
  rw [if_neg h0] at h
  by_cases h1 : name = "Br" ∨ name = "BrIf"
  · rw [if_pos h1] at h
    obtain ⟨n, rfl⟩ := single_ref h
    rcases h1 with rfl | rfl
    · exact .br n
    · exact .brIf n
  rw [if_neg h1] at h
  by_cases h2 : name = "BrTable"
  · subst h2
    simp only [if_true, Bool.and_eq_true, Bool.not_eq_true', List.isEmpty_eq_false_iff] at h
    obtain ⟨ls, rfl⟩ := all_labels args h.2
    have hne : ls ≠ [] := by intro h0; subst h0; exact h.1 rfl
    rw [← List.dropLast_concat_getLast hne, List.map_append]
    exact .brTable _ _
  rw [if_neg h2] at h
  by_cases h3 : name = "Return" ∨ name = "Unreachable"
  · rw [if_pos h3, List.isEmpty_iff] at h
    subst h
    rcases h3 with rfl | rfl
    · exact .ret
    · exact .unreachable
  rw [if_neg h3] at h
  by_cases h4 : (name = "Call" ∨ name = "RefFunc") ∨ name = "ReturnCall"
  · rw [if_pos h4] at h
    obtain ⟨n, rfl⟩ := single_ref h
    exact .call name (or_assoc.1 h4) n
  rw [if_neg h4] at h
  by_cases h5 : name = "CallIndirect" ∨ name = "ReturnCallIndirect"
  · rw [if_pos h5] at h
    rcases args with _ | ⟨a, _ | ⟨b, _ | ⟨c, r⟩⟩⟩
    · cases h
    · cases h
    · simp only [Bool.and_eq_true] at h
      obtain ⟨y, rfl⟩ := argIs_ref "y" a h.1
      obtain ⟨t, rfl⟩ := argIs_ref "t" b h.2
      exact .callIndirect name h5 y t
    · cases h
  rw [if_neg h5] at h
  by_cases h6 : (name = "LocalGet" ∨ name = "LocalSet") ∨ name = "LocalTee"
  · rw [if_pos h6] at h
    obtain ⟨x, rfl⟩ := single_ref h
    exact .local_ name (or_assoc.1 h6) x
  · rw [if_neg h6] at h
    simp only [Bool.and_eq_true, beq_iff_eq] at h
    simp only [not_or] at h1 h3 h4 h5 h6
    exact .other name args ⟨h1.1, h1.2, h2, h3.1, h3.2, h0, h4.1.1, h4.1.2, h4.2, h5.1, h5.2, h6.1.1, h6.1.2, h6.2⟩ h.1 h.2

mutual
theorem shapedB_I : (i : PI) → i.shapedB = true → i.Shaped
  | .op o _, h => opShapedB_sound o (by simpa [PI.shapedB] using h)
  | .blk _ _ b _, h => shapedB_L b (by simpa [PI.shapedB] using h)
  | .if1 _ _ t _, h => shapedB_L t (by simpa [PI.shapedB] using h)
  | .if2 _ _ t _ e _, h => by
      simp only [PI.shapedB, Bool.and_eq_true] at h
      exact ⟨shapedB_L t h.1, shapedB_L e h.2⟩
theorem shapedB_L : (l : PL) → l.shapedB = true → l.Shaped
  | .nil, _ => trivial
  | .cons hd tl, h => by
      simp only [PL.shapedB, Bool.and_eq_true] at h
      exact ⟨shapedB_I hd h.1, shapedB_L tl h.2⟩
end

end Walrus
