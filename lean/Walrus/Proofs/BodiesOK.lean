import Walrus.BodiesOK
import Walrus.Proofs.CodeEmit
import Walrus.Proofs.SectionsEmit

/-!
The hypotheses of the emission-totality theorems in their decidable forms (`bodiesOKc`, `shapeOK`,
`sectionsOK`: evaluated by the driver on every case) imply the `Prop` forms the theorems are stated with
(`BodiesWFc`, the shape of a body, `SectionsWF`).
-/
namespace Walrus

theorem opCleanB_sound (o : Op) (h : opCleanB o = true) : opClean o := by
  simp only [opCleanB, Bool.and_eq_true, Bool.or_eq_true, Bool.not_eq_true', decide_eq_true_eq,
    List.isEmpty_iff, List.all_eq_true] at h
  obtain ⟨⟨h1, h2⟩, h3⟩ := h
  refine ⟨fun hn => h1.resolve_left fun h1 => ?_, fun n hm => ?_, fun sp n hm => by simpa using h3 _ hm⟩
  · simp only [Bool.or_eq_false_iff, decide_eq_false_iff_not] at h1
    exact hn.elim h1.1 h1.2
  · exact h2.elim (fun h2 => by simpa using h2 _ hm) or_assoc.1

mutual
theorem wfB_I : (i : PI) → i.wfB = true → i.WF
  | .op o _, h => by simpa [PI.wfB, PI.WF] using h
  | .blk o _ b _, h => by
      simp only [PI.wfB, Bool.and_eq_true, Bool.or_eq_true, decide_eq_true_eq] at h
      exact ⟨h.1, wfB_L b h.2⟩
  | .if1 o _ t _, h => by
      simp only [PI.wfB, Bool.and_eq_true, decide_eq_true_eq] at h
      exact ⟨h.1, wfB_L t h.2⟩
  | .if2 o _ t _ e _, h => by
      simp only [PI.wfB, Bool.and_eq_true, decide_eq_true_eq] at h
      exact ⟨h.1.1, wfB_L t h.1.2, wfB_L e h.2⟩
theorem wfB_L : (l : PL) → l.wfB = true → l.WF
  | .nil, _ => trivial
  | .cons hd tl, h => by
      simp only [PL.wfB, Bool.and_eq_true] at h
      exact ⟨wfB_I hd h.1, wfB_L tl h.2⟩
end

mutual
theorem cleanB_I : (i : PI) → i.cleanB = true → i.Clean
  | .op o _, h => opCleanB_sound o (by simpa [PI.cleanB] using h)
  | .blk o _ b _, h => cleanB_L b (by simpa [PI.cleanB] using h)
  | .if1 o _ t _, h => cleanB_L t (by simpa [PI.cleanB] using h)
  | .if2 o _ t _ e _, h => by
      simp only [PI.cleanB, Bool.and_eq_true] at h
      exact ⟨cleanB_L t h.1, cleanB_L e h.2⟩
theorem cleanB_L : (l : PL) → l.cleanB = true → l.Clean
  | .nil, _ => trivial
  | .cons hd tl, h => by
      simp only [PL.cleanB, Bool.and_eq_true] at h
      exact ⟨cleanB_I hd h.1, cleanB_L tl h.2⟩
end

theorem shapeOK_sound (ops : List (Op × Nat)) (h : shapeOK ops = true) :
    ∃ body endLoc, PL.WF body ∧ PL.Clean body ∧ ops = body.flat ++ [(opEnd, endLoc)] := by
  simp only [shapeOK] at h
  cases hu : unflat ops with
  | none => simp [hu] at h
  | some r =>
    simp only [hu, Bool.and_eq_true, decide_eq_true_eq] at h
    exact ⟨r.1, r.2, wfB_L _ h.1.2, cleanB_L _ h.2, h.1.1⟩

theorem bodyOK_sound (e : PEnv) (ops : List (Op × Nat)) (h : bodyOK e ops = true) :
    ∃ body endLoc is cs u, PL.WF body ∧ PL.Clean body ∧ ops = body.flat ++ [(opEnd, endLoc)] ∧
      expL e [0] 1 false body = some (is, cs, u) := by
  simp only [bodyOK] at h
  cases hu : unflat ops with
  | none => simp [hu] at h
  | some r =>
    simp only [hu, Bool.and_eq_true, decide_eq_true_eq] at h
    obtain ⟨⟨is, cs, u⟩, hr⟩ := Option.isSome_iff_exists.1 h.2
    exact ⟨r.1, r.2, is, cs, u, wfB_L _ h.1.1.2, cleanB_L _ h.1.2, h.1.1.1, hr⟩

theorem bodiesOKc_sound (m : ModuleM) (pfs : List ParsedFunc) (h : bodiesOKc m pfs = true) :
    BodiesWFc (codeOf m) pfs := by
  intro k f pf hf hpf
  obtain ⟨locals, hc⟩ := codeOf_funcs_get m k f hf
  simp only [bodiesOKc, List.all_eq_true, List.mem_range] at h
  have hk := h k (List.getElem?_eq_some_iff.1 hpf).1
  rw [hc, hpf] at hk
  exact bodyOK_sound _ _ (by simpa [envOf, codeOf] using hk)

theorem cexprOK_sound (c : CExprM) (h : cexprOK c = true) : cexprWF c := by
  simp only [cexprOK, List.all_eq_true] at h
  exact fun op hop sp id hr => by simpa using h op hop _ hr

theorem offsetOK_sound (c : CExprM) (h : offsetOK c = true) : offsetWF c := by
  simp only [offsetOK, List.all_eq_true] at h
  exact fun op hop sp id hr => by simpa using h op hop _ hr

theorem sectionsOK_sound (m : ModuleM) (h : sectionsOK m = true) : SectionsWF m := by
  simp only [sectionsOK, Bool.and_eq_true, List.all_eq_true] at h
  obtain ⟨⟨⟨⟨⟨h1, h2⟩, h3⟩, h4⟩, h5⟩, h6⟩ := h
  exact {
    exportKinds := fun e he => by simpa using h1 e he
    globalInits := fun gl hgl => cexprOK_sound _ (h2 gl hgl)
    dataOffsets := fun d hd mem off hm => offsetOK_sound off (by simpa [hm] using h3 d hd)
    elemOffsets := fun e he t off hm => offsetOK_sound off (by simpa [hm] using h4 e he)
    elemItems := fun e he ty es hi c hc => cexprOK_sound c (by
      have := h5 e he
      rw [hi] at this
      exact List.all_eq_true.1 this c hc)
    importTypes := fun i hi t ht => by simpa [ht] using h6 i hi }

end Walrus
