import Walrus.Traverse

/-!
Simulation proofs: the explicit-stack traversals equal the recursive reference walks. The in-order
one is proved with its iteration count: `dfs_in_order` over a tree view takes one loop iteration per
instruction and one per sequence (`costL t + 1` for the sequence holding `t`), so the fuel the model
hands to the traversal is a bound, not a guess, whenever it is at least that.
-/
namespace Walrus

section
variable {σ ι ε : Type}
variable (evS : Nat → σ → List ε) (evI : ι → List ε) (evE : Nat → σ → List ε)

theorem inOrderRun_add (ar : TArena σ ι) (m n : Nat) (st) :
    inOrderRun evS evI evE ar (m + n) st = inOrderRun evS evI evE ar n (inOrderRun evS evI evE ar m st) := by
  induction m generalizing st with
  | zero => simp [inOrderRun]
  | succ m ih => rw [Nat.succ_add]; simp [inOrderRun, ih]

theorem inOrderRun_done (ar : TArena σ ι) (n : Nat) (out : List ε) :
    inOrderRun evS evI evE ar n ([], out) = ([], out) := by
  induction n with
  | zero => rfl
  | succ n ih => simp [inOrderRun, inOrderStep, ih]

/-- positions `k..` of sequence `s` hold the instruction list of `t` -/
def Suffix (ar : TArena σ ι) (s k : Nat) (sp : σ) (t : TL σ ι) : Prop :=
  ∃ pre : List (TInstr ι), ar.get? s = some (sp, pre ++ t.toList) ∧ pre.length = k

theorem suffix_zero {ar : TArena σ ι} {s sp} {t : TL σ ι} (h : ar.get? s = some (sp, t.toList)) :
    Suffix ar s 0 sp t := ⟨[], by simpa using h, rfl⟩

theorem suffix_next {ar : TArena σ ι} {s k sp h} {t : TL σ ι} (hs : Suffix ar s k sp (.cons h t)) :
    Suffix ar s (k+1) sp t := by
  obtain ⟨pre, h1, h2⟩ := hs
  exact ⟨pre ++ [h.toInstr], by simpa [TL.toList] using h1, by simp [h2]⟩

def pushKids : TI σ ι → List (Nat × Nat) → List (Nat × Nat)
  | .leaf _, rest => rest
  | .one _ s _ _, rest => (s, 0) :: rest
  | .two _ c _ _ a _ _, rest => (c, 0) :: (a, 0) :: rest

def pre' (s : Nat) (sp : σ) (k : Nat) (out : List ε) : List ε := if k = 0 then out ++ evS s sp else out

theorem step_cons {ar : TArena σ ι} {s k sp h} {t : TL σ ι} {rest out}
    (hs : Suffix ar s k sp (.cons h t)) :
    inOrderStep evS evI evE ar ((s, k) :: rest, out) =
      (pushKids h ((s, k+1) :: rest), pre' evS s sp k out ++ evI h.toInstr.payload) := by
  obtain ⟨pre, h1, h2⟩ := hs
  have hg : (pre ++ (TL.cons h t).toList)[k]? = some h.toInstr := by subst h2; simp [TL.toList]
  unfold inOrderStep
  simp only [h1, hg, pre']
  cases h <;> simp [TI.toInstr, pushKids]

theorem step_nil {ar : TArena σ ι} {s k sp} {rest out} (hs : Suffix ar s k sp (.nil : TL σ ι)) :
    inOrderStep evS evI evE ar ((s, k) :: rest, out) = (rest, pre' evS s sp k out ++ evE s sp) := by
  obtain ⟨pre, h1, h2⟩ := hs
  have hg : (pre ++ (TL.nil : TL σ ι).toList)[k]? = none := by subst h2; simp [TL.toList]
  unfold inOrderStep
  simp only [h1, hg, pre']

mutual
/-- loop iterations spent in the sequences nested under one instruction -/
def costI : TI σ ι → Nat
  | .leaf _ => 0
  | .one _ _ _ b => costL b + 1
  | .two _ _ _ tc _ _ ta => (costL tc + 1) + (costL ta + 1)
/-- loop iterations spent on an instruction list, the closing iteration of its sequence aside -/
def costL : TL σ ι → Nat
  | .nil => 0
  | .cons h t => 1 + costI h + costL t
end

mutual
theorem simN_I (ar : TArena σ ι) : (i : TI σ ι) → ViewI ar i → ∀ rest out,
    inOrderRun evS evI evE ar (costI i) (pushKids i rest, out) = (rest, out ++ walkKids evS evI evE i)
  | .leaf _, _, rest, out => by simp [inOrderRun, pushKids, walkKids, costI]
  | .one p s sp b, hv, rest, out => by
      cases hv with
      | one _ _ _ _ hc hb =>
        have hn := simN_L ar b hb s sp 0 rest out (suffix_zero hc)
        simp [pushKids, walkKids, costI, hn, pre']
  | .two p c cp tc a ap ta, hv, rest, out => by
      cases hv with
      | two _ _ _ _ _ _ _ hc ha hvc hva =>
        have h1 := simN_L ar tc hvc c cp 0 ((a, 0) :: rest) out (suffix_zero hc)
        have h2 := simN_L ar ta hva a ap 0 rest
          (pre' evS c cp 0 out ++ walkL evS evI evE tc ++ evE c cp) (suffix_zero ha)
        simp only [pushKids, costI, inOrderRun_add, h1, h2]
        simp [walkKids, pre']
theorem simN_L (ar : TArena σ ι) : (t : TL σ ι) → ViewL ar t → ∀ s sp k rest out, Suffix ar s k sp t →
    inOrderRun evS evI evE ar (costL t + 1) ((s, k) :: rest, out) =
      (rest, pre' evS s sp k out ++ walkL evS evI evE t ++ evE s sp)
  | .nil, _, s, sp, k, rest, out, hs => by simp [inOrderRun, step_nil evS evI evE hs, walkL, costL]
  | .cons h t, hv, s, sp, k, rest, out, hs => by
      cases hv with
      | cons _ _ hh ht =>
        have h1 := simN_I ar h hh ((s, k+1) :: rest) (pre' evS s sp k out ++ evI h.toInstr.payload)
        have h2 := simN_L ar t ht s sp (k+1) rest
          (pre' evS s sp k out ++ evI h.toInstr.payload ++ walkKids evS evI evE h) (suffix_next hs)
        have hc : costL (.cons h t) + 1 = 1 + (costI h + (costL t + 1)) := by simp only [costL, Nat.add_assoc]
        have h0 : ∀ st, inOrderRun evS evI evE ar 1 st = inOrderStep evS evI evE ar st := fun _ => rfl
        rw [hc, inOrderRun_add, h0, step_cons evS evI evE hs, inOrderRun_add, h1, h2]
        simp [pre', walkL]
end

theorem sim_I (ar : TArena σ ι) : (i : TI σ ι) → ViewI ar i → ∀ rest out,
    ∃ n, inOrderRun evS evI evE ar n (pushKids i rest, out) = (rest, out ++ walkKids evS evI evE i) :=
  fun i hv rest out => ⟨costI i, simN_I evS evI evE ar i hv rest out⟩

/-- **in-order traversal = recursive walk, in `costL t + 1` iterations**: one per instruction and one
    per sequence of the tree; extra fuel is harmless -/
theorem dfsInOrder_eq_walk_steps (ar : TArena σ ι) (entry : Nat) (sp : σ) (t : TL σ ι)
    (he : ar.get? entry = some (sp, t.toList)) (hv : ViewL ar t) (fuel : Nat) (hf : costL t + 1 ≤ fuel) :
    dfsInOrder evS evI evE ar fuel entry = ([], walkSeq evS evI evE entry sp t) := by
  have hn := simN_L evS evI evE ar t hv entry sp 0 [] [] (suffix_zero he)
  obtain ⟨d, rfl⟩ := Nat.exists_eq_add_of_le hf
  unfold dfsInOrder
  rw [inOrderRun_add, hn, inOrderRun_done]
  simp [pre', walkSeq]

/-- **in-order traversal = recursive walk**, for every function whose sequence graph unfolds to a
    finite tree -/
theorem dfsInOrder_eq_walk (ar : TArena σ ι) (entry : Nat) (sp : σ) (t : TL σ ι)
    (he : ar.get? entry = some (sp, t.toList)) (hv : ViewL ar t) :
    ∃ n, ∀ fuel, n ≤ fuel → dfsInOrder evS evI evE ar fuel entry = ([], walkSeq evS evI evE entry sp t) :=
  ⟨costL t + 1, dfsInOrder_eq_walk_steps evS evI evE ar entry sp t he hv⟩

theorem preOrderRun_add (ar : TArena σ ι) (m n : Nat) (st) :
    preOrderRun evS evI evE ar (m + n) st = preOrderRun evS evI evE ar n (preOrderRun evS evI evE ar m st) := by
  induction m generalizing st with
  | zero => simp [preOrderRun]
  | succ m ih => rw [Nat.succ_add]; simp [preOrderRun, ih]

theorem preOrderRun_done (ar : TArena σ ι) (n : Nat) (out : List ε) :
    preOrderRun evS evI evE ar n ([], out) = ([], out) := by
  induction n with
  | zero => rfl
  | succ n ih => simp [preOrderRun, preOrderStep, ih]

/-- the nested sequences of an instruction (`popsI`), of an instruction list (`pops`), in the order they
    will be popped -/
def popsI : TI σ ι → List Nat
  | .leaf _ => []
  | .one _ s _ _ => [s]
  | .two _ c _ _ a _ _ => [c, a]

def pops : TL σ ι → List Nat
  | .nil => []
  | .cons h t => pops t ++ popsI h

theorem pushes_reverse : (t : TL σ ι) → (t.toList.flatMap kidPush).reverse = pops t
  | .nil => rfl
  | .cons h t => by
    have ih := pushes_reverse t
    simp only [TL.toList, List.flatMap_cons, List.reverse_append, ih, pops]
    congr 1
    cases h <;> simp [kidPush, TI.toInstr, popsI]

theorem preStep_seq {ar : TArena σ ι} {s sp} {t : TL σ ι} {rest out}
    (h : ar.get? s = some (sp, t.toList)) :
    preOrderStep evS evI evE ar (s :: rest, out) = (pops t ++ rest, out ++ ownEvents evS evI evE s sp t) := by
  unfold preOrderStep
  simp only [h]
  rw [pushes_reverse t]
  simp [ownEvents, List.append_assoc]

mutual
theorem simP_I (ar : TArena σ ι) : (i : TI σ ι) → ViewI ar i → ∀ rest out,
    ∃ n, preOrderRun evS evI evE ar n (popsI i ++ rest, out) = (rest, out ++ preKids evS evI evE i)
  | .leaf _, _, rest, out => ⟨0, by simp [preOrderRun, popsI, preKids]⟩
  | .one p s sp b, hv, rest, out => by
      cases hv with
      | one _ _ _ _ hc hb =>
        obtain ⟨n, hn⟩ := simP_L ar b hb rest (out ++ ownEvents evS evI evE s sp b)
        refine ⟨1 + n, ?_⟩
        rw [preOrderRun_add]
        simp only [preOrderRun, popsI, List.singleton_append, preStep_seq evS evI evE hc, hn]
        simp [preKids]
  | .two p c cp tc a ap ta, hv, rest, out => by
      cases hv with
      | two _ _ _ _ _ _ _ hc ha hvc hva =>
        obtain ⟨n1, h1⟩ := simP_L ar tc hvc (a :: rest) (out ++ ownEvents evS evI evE c cp tc)
        obtain ⟨n2, h2⟩ := simP_L ar ta hva rest
          (out ++ ownEvents evS evI evE c cp tc ++ preRev evS evI evE tc ++ ownEvents evS evI evE a ap ta)
        refine ⟨(1 + n1) + (1 + n2), ?_⟩
        rw [preOrderRun_add, preOrderRun_add, preOrderRun_add]
        simp only [preOrderRun, popsI, List.cons_append, List.nil_append]
        rw [preStep_seq evS evI evE hc, h1, preStep_seq evS evI evE ha, h2]
        simp [preKids]
theorem simP_L (ar : TArena σ ι) : (t : TL σ ι) → ViewL ar t → ∀ rest out,
    ∃ n, preOrderRun evS evI evE ar n (pops t ++ rest, out) = (rest, out ++ preRev evS evI evE t)
  | .nil, _, rest, out => ⟨0, by simp [preOrderRun, pops, preRev]⟩
  | .cons h t, hv, rest, out => by
      cases hv with
      | cons _ _ hh ht =>
        obtain ⟨n1, h1⟩ := simP_L ar t ht (popsI h ++ rest) out
        obtain ⟨n2, h2⟩ := simP_I ar h hh rest (out ++ preRev evS evI evE t)
        refine ⟨n1 + n2, ?_⟩
        rw [preOrderRun_add]
        simp only [pops, List.append_assoc, h1, h2]
        simp [preRev]
end

/-- pre-order traversal = recursive reference: every sequence of the tree is scanned exactly
    once, each instruction's events are reported exactly once. -/
theorem dfsPreOrderMut_eq (ar : TArena σ ι) (entry : Nat) (sp : σ) (t : TL σ ι)
    (he : ar.get? entry = some (sp, t.toList)) (hv : ViewL ar t) :
    ∃ n, ∀ fuel, n ≤ fuel → dfsPreOrderMut evS evI evE ar fuel entry = ([], preSeq evS evI evE entry sp t) := by
  obtain ⟨n, hn⟩ := simP_L evS evI evE ar t hv [] ([] ++ ownEvents evS evI evE entry sp t)
  refine ⟨1 + n, fun fuel hf => ?_⟩
  obtain ⟨d, rfl⟩ := Nat.exists_eq_add_of_le hf
  unfold dfsPreOrderMut
  rw [preOrderRun_add, preOrderRun_add]
  simp only [preOrderRun, preStep_seq evS evI evE he]
  rw [hn, preOrderRun_done]
  simp [preSeq]

end
end Walrus
