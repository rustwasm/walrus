import Walrus.Proofs.GcEmit

/-!
The sweep of the GC pass, seen on the emitted module: what `parse → gc::run → emit` writes contains,
in every index space, exactly the entities of the input that are in the used set — nothing else
survives.  With `C07.usedSet_is_reachable_set` every emitted entity is therefore reachable from
the roots (or is the one residue memory).
-/
namespace Walrus

/-- the sweep keeps the entries whose id is used -/
theorem filter_keptOf {α : Type} (u : List Ent) (sp : String) (base : Nat) (l : List α) :
    (l.zipIdx.filter fun p => (keptOf u sp (base + l.length)).contains (base + p.2)) =
    l.zipIdx.filter fun p => decide ((sp, base + p.2) ∈ u) := by
  apply List.filter_congr
  intro p hp
  have hlt : p.2 < l.length := by simpa using (List.mem_zipIdx hp).2.1
  simp [mem_keptOf, hlt]

/-- what the pass leaves of every index space: the tables and memories of the output are the
    used ones of the input, in order; the output has one global, one element segment and one data
    segment for each used one of the input, and no other; every function entry has its body -/
theorem sweep_keeps_exactly_the_used (m : ModuleM) (g : GcInfo) (hg : mkGcInfo m = some g) (o : ModuleM)
    (h : gcRoundTrip m = some o) :
    o.tables = (m.tables.zipIdx.filter fun p => decide (("t", g.nit + p.2) ∈ usedSet g)).map (·.1) ∧
    o.mems = (m.mems.zipIdx.filter fun p => decide (("m", g.nim + p.2) ∈ usedSet g)).map (·.1) ∧
    o.globals.length = (m.globals.zipIdx.filter fun p => decide (("g", g.nig + p.2) ∈ usedSet g)).length ∧
    o.elems.length = (m.elems.zipIdx.filter fun p => decide (("e", p.2) ∈ usedSet g)).length ∧
    o.datas.length = (m.datas.zipIdx.filter fun p => decide (("d", p.2) ∈ usedSet g)).length ∧
    o.funcs.length = o.code.length := by
  obtain ⟨g', oc, hg', _, _, ho⟩ := gcRoundTrip_some m o h
  cases hg.symm.trans hg'
  have he := filter_keptOf (usedSet g) "e" 0 m.elems
  have hd := filter_keptOf (usedSet g) "d" 0 m.datas
  simp only [Nat.zero_add] at he hd
  refine ⟨?_, ?_, ?_, ?_, ?_, ?_⟩
  · exact ho.tables.trans (congrArg _ (filter_keptOf (usedSet g) "t" g.nit m.tables))
  · exact ho.mems.trans (congrArg _ (filter_keptOf (usedSet g) "m" g.nim m.mems))
  · rw [mapM_some_length ho.globals, List.length_map, filter_keptOf]
  · rw [mapM_some_length ho.elems, List.length_map, he]
  · rw [mapM_some_length ho.datas, List.length_map, hd]
  · rw [ho.funcs, ho.code, List.length_map, List.length_map]

end Walrus
