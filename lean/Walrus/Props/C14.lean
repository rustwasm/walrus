import Walrus.Props.C08

/-!
# C14 — configuration switches do exactly what they document

Model: `Walrus/Sections.lean` (custom-section tail of `emit_wasm`, producers handling, the parse
callback). Statements hold for every input and every setting of the other switches.
The standard (non-custom) sections do not depend on these switches in the code; that part of
"and nothing else" is carried by the byte-level oracle of the `sections` suite.
-/
namespace Walrus
namespace C14

def isNames : OutC → Bool | .names _ => true | _ => false
def isProducers : OutC → Bool | .producers _ => true | _ => false
def isDwarf : OutC → Bool | .dwarf => true | _ => false

/-- switching name generation off removes exactly the name section -/
theorem skip_name_exact (m : SMod) :
    (semit { m with cfg := { m.cfg with skipName := true } }).1 =
      (semit { m with cfg := { m.cfg with skipName := false } }).1.filter (fun o => !isNames o) := by
  simp [semit, apply_ite (List.filter _), List.filter_map, Function.comp_def, isNames]

/-- switching producers generation off removes exactly the producers section -/
theorem skip_producers_exact (m : SMod) :
    (semit { m with cfg := { m.cfg with skipProducers := true } }).1 =
      (semit { m with cfg := { m.cfg with skipProducers := false } }).1.filter (fun o => !isProducers o) := by
  simp [semit, apply_ite (List.filter _), List.filter_map, Function.comp_def, isProducers]

/-- DWARF sections are carried into the output exactly when DWARF generation is on and the module
    carries DWARF -/
theorem dwarf_iff (m : SMod) :
    (semit m).1.any isDwarf = (m.cfg.generateDwarf && m.hasDwarf) := by
  simp [semit, apply_ite (List.any · isDwarf), List.any_map, Function.comp_def, isDwarf]

/-- … and a parsed module carries DWARF exactly when the input has a non-empty `.debug*` section -/
theorem parsed_dwarf (cfg : SCfg) (ver : String) (input : List InC) (m : SMod)
    (h : sparse cfg ver true input = some m) :
    m.hasDwarf = input.any (fun c => decide (classify c.name = .debug) && c.nonEmptyDwarf) := by
  rw [sparse_eq] at h
  cases h
  rfl

/-- with producers generation on, after parsing: walrus is recorded exactly once as a processing
    tool, and every other field of the input is preserved in place -/
theorem producers_once (cfg : SCfg) (ver : String) (input : List InC) (m : SMod)
    (h : sparse cfg ver true input = some m) (hwf : PWF (prodIn input)) :
    countEntry m.producers "processed-by" "walrus" = 1 ∧
    m.producers.filter (fun f => f.name ≠ "processed-by") = (prodIn input).filter (fun f => f.name ≠ "processed-by") ∧
    PWF m.producers := by
  rw [sparse_eq] at h
  cases h
  have := count_producersField (prodIn input) "processed-by" "walrus" ver hwf
  exact ⟨this.1, producersField_others _ _ _ _, this.2⟩

/-- `n` further round trips of an output -/
def again (cfg : SCfg) (ver : String) : Nat → List OutC → List OutC
  | 0, out => out
  | n+1, out => again cfg ver n (C08.roundTrip cfg ver (out.map OutC.toIn))

/-- … however often the module is round-tripped: the output of every further round trip equals
    the output of the first -/
theorem producers_stable (cfg : SCfg) (ver : String) (input : List InC) (n : Nat) :
    again cfg ver n (C08.roundTrip cfg ver input) = C08.roundTrip cfg ver input := by
  induction n with
  | zero => rfl
  | succ n ih => rw [again, C08.roundtrip_fixpoint, ih]

/-- the parse callback runs exactly once per successful parse and never on a failed one -/
theorem on_parse_once (cfg : SCfg) (ver : String) (input : List InC) :
    (∀ m, sparse cfg ver true input = some m → m.onParseCalls = 1) ∧
    sparse cfg ver false input = none := by
  constructor
  · intro m h
    rw [sparse_eq] at h
    cases h; rfl
  · simp [sparse]

/-- non-vacuity: a well-formed producers section that already names walrus once -/
example : PWF [⟨"language", [("Rust", "2021")]⟩, ⟨"processed-by", [("clang", "1"), ("walrus", "0.1")]⟩] := by
  unfold PWF; decide +kernel

example : producersField [⟨"language", [("Rust", "2021")]⟩, ⟨"processed-by", [("clang", "1"), ("walrus", "0.1")]⟩]
    "processed-by" "walrus" "0.23.3"
    = [⟨"language", [("Rust", "2021")]⟩, ⟨"processed-by", [("clang", "1"), ("walrus", "0.23.3")]⟩] := by decide +kernel

end C14
end Walrus
