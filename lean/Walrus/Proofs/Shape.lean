import Walrus.Proofs.BodiesOK
import Walrus.Proofs.ParseConverse

/-!
The hypotheses of the emission-totality theorems reduced to the shape of the input: for a
well-nested body, "the parse succeeded" already is "its tree-level description answers"
(`expL_of_buildBody`), so nothing about the parse has to be assumed beyond its success.
-/
namespace Walrus

def BodiesShape (c : InCode) : Prop :=
  ∀ (k : Nat) (f : InFunc), c.funcs[k]? = some f →
    ∃ body endLoc, PL.WF body ∧ PL.Clean body ∧ f.ops = body.flat ++ [(opEnd, endLoc)]

theorem bodiesWFc_of_shape (c : InCode) (pfs : List ParsedFunc) (hp : parseCode c = some pfs) (hs : BodiesShape c) :
    BodiesWFc c pfs := by
  intro k f pf hf hpf
  obtain ⟨body, endLoc, hwf, hcl, hops⟩ := hs k f hf
  obtain ⟨pf', hpf', _, _, entryId, _, hbuild⟩ := (parseCode_spec c pfs hp).2 k f hf
  rw [hpf] at hpf'
  obtain rfl := Option.some.inj hpf'
  rw [hops] at hbuild
  obtain ⟨r, hr⟩ := Option.isSome_iff_exists.1 (expL_of_buildBody (envOf c pf) entryId body hwf endLoc pf.seqs hbuild)
  obtain ⟨is, cs, u⟩ := r
  exact ⟨body, endLoc, is, cs, u, hwf, hcl, hops, hr⟩

theorem shapesOK_sound (m : ModuleM) (h : shapesOK m = true) : BodiesShape (codeOf m) := by
  intro k f hf
  obtain ⟨locals, hc⟩ := codeOf_funcs_get m k f hf
  simp only [shapesOK, List.all_eq_true] at h
  exact shapeOK_sound _ (h _ (List.mem_of_getElem? hc))

end Walrus
