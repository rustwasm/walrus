import Walrus.Proofs.Arena

/-! Refinement of `ArenaSet` (the de-duplicating type set) to the specification (C17): the arena's
    refinement, plus the invariant that the hash map is the inverse of the live part of the arena. -/

namespace Walrus

variable {α : Type} [DecidableEq α]

theorem findVal_none {l : List (Nat × α)} {v : α} :
    ASpec.findVal l v = none ↔ ∀ i, (i, v) ∉ l := by
  induction l with
  | nil => simp [ASpec.findVal]
  | cons x xs ih =>
    obtain ⟨k, w⟩ := x
    by_cases hw : w = v
    · subst hw
      simp only [ASpec.findVal, if_true]
      exact ⟨(fun h => nomatch h), fun h => absurd List.mem_cons_self (h k)⟩
    · simp only [ASpec.findVal, hw, if_false, ih, List.mem_cons, Prod.mk.injEq, not_or]
      exact ⟨fun h i => ⟨fun e => hw e.2.symm, h i⟩, fun h i => (h i).2⟩

theorem findVal_some {l : List (Nat × α)} {v : α} {i : Nat} (h : ASpec.findVal l v = some i) : (i, v) ∈ l := by
  induction l with
  | nil => simp [ASpec.findVal] at h
  | cons x xs ih =>
    obtain ⟨k, w⟩ := x
    by_cases hw : w = v
    · subst hw
      simp only [ASpec.findVal, if_true, Option.some.injEq] at h
      subst h; exact List.mem_cons_self
    · simp only [ASpec.findVal, hw, if_false] at h
      exact List.mem_cons_of_mem _ (ih h)

def ArenaSet.abs (s : ArenaSet α) : ASpec α := s.arena.abs

/-- representation invariant of `ArenaSet`: the hash map is exactly the inverse of the live part
    of the arena (this also makes live values pairwise distinct). -/
structure ArenaSet.Inv (s : ArenaSet α) : Prop where
  arena : s.arena.Inv
  index : ∀ v i, ArenaSet.lookup s.index v = some i ↔ (i, v) ∈ s.arena.iter

theorem ArenaSet.inv_empty : (ArenaSet.empty : ArenaSet α).Inv :=
  ⟨Arena.inv_empty, by intro v i; simp [ArenaSet.empty, ArenaSet.lookup, Arena.empty, Arena.iter, Arena.enumFrom]⟩

theorem ArenaSet.lookup_eq_findVal {s : ArenaSet α} (h : s.Inv) (v : α) :
    ArenaSet.lookup s.index v = ASpec.findVal s.arena.iter v := by
  cases hf : ASpec.findVal s.arena.iter v with
  | none =>
    cases hl : ArenaSet.lookup s.index v with
    | none => rfl
    | some i => exact absurd ((h.index v i).1 hl) (findVal_none.1 hf i)
  | some i => exact (h.index v i).2 (findVal_some hf)

theorem lookup_eraseKey (ix : List (α × Nat)) (w v : α) :
    ArenaSet.lookup (ArenaSet.eraseKey ix w) v = if v = w then none else ArenaSet.lookup ix v := by
  induction ix with
  | nil => simp [ArenaSet.eraseKey, ArenaSet.lookup]
  | cons x xs ih =>
    obtain ⟨k, i⟩ := x
    unfold ArenaSet.eraseKey at ih ⊢
    by_cases hk : k = w
    · subst hk
      simp only [List.filter, decide_true, Bool.not_true, ih, ArenaSet.lookup]
      by_cases hv : v = k
      · simp [hv]
      · simp [hv, Ne.symm hv]
    · simp only [List.filter, hk, decide_false, Bool.not_false, ArenaSet.lookup, ih]
      by_cases hv : k = v
      · subst hv; simp [hk]
      · simp [hv]

theorem ArenaSet.insert_refines {s : ArenaSet α} (h : s.Inv) (v : α) :
    ((s.insert v).1.abs, (s.insert v).2) = ASpec.insert s.abs v ∧ (s.insert v).1.Inv := by
  unfold ArenaSet.insert ASpec.insert
  have hl := ArenaSet.lookup_eq_findVal h v
  cases hf : ArenaSet.lookup s.index v with
  | some i =>
    rw [hf] at hl
    simp [ArenaSet.abs, Arena.abs, ← hl, h]
  | none =>
    rw [hf] at hl
    have hit := Arena.iter_alloc h.arena v
    have hinv := Arena.inv_alloc h.arena v
    simp only [Arena.alloc] at hit hinv
    refine ⟨by simp [ArenaSet.abs, Arena.abs, ← hl, ASpec.alloc, Arena.alloc, hit], hinv, fun w j => ?_⟩
    -- the new map entry `(v, next_id)` mirrors the new last item; `v` was not live before
    have hnone := findVal_none.1 hl.symm
    simp only [Arena.alloc, ArenaSet.lookup, hit, List.mem_append, List.mem_singleton, Prod.mk.injEq]
    by_cases hw : v = w
    · subst hw
      simp [hnone j, eq_comm]
    · simp [hw, h.index w j, Ne.symm hw]

/-- `remove` is the arena's `delete`, plus erasing from the map the value that stood under `i`. -/
theorem ArenaSet.arena_remove (od : α → α) (s : ArenaSet α) (i : Nat) :
    (s.remove od i).map (·.arena) = s.arena.delete od i := by
  unfold ArenaSet.remove
  rw [Arena.index_eq]
  cases hg : s.arena.get? i with
  | none => exact ((Arena.delete_eq_none_iff od s.arena i).2 hg).symm
  | some w => cases s.arena.delete od i <;> rfl

theorem ArenaSet.of_remove_eq_some {od : α → α} {s s' : ArenaSet α} {i : Nat} (hr : s.remove od i = some s') :
    ∃ w, s.arena.get? i = some w ∧ s.arena.delete od i = some s'.arena ∧
      s'.index = ArenaSet.eraseKey s.index w := by
  unfold ArenaSet.remove at hr
  rw [Arena.index_eq] at hr
  cases hg : s.arena.get? i with
  | none => simp [hg] at hr
  | some w =>
    cases hd : s.arena.delete od i with
    | none => simp [hg, hd] at hr
    | some a' =>
      simp only [hg, hd, Option.some.injEq] at hr
      subst hr
      exact ⟨w, rfl, rfl, rfl⟩

theorem ArenaSet.remove_refines (od : α → α) {s : ArenaSet α} (h : s.Inv) (i : Nat) :
    (s.remove od i).map ArenaSet.abs = s.abs.delete i ∧ (∀ s', s.remove od i = some s' → s'.Inv) := by
  refine ⟨?_, fun s' hr => ?_⟩
  · rw [ArenaSet.abs, ← Arena.abs_delete od, ← ArenaSet.arena_remove, Option.map_map]
    rfl
  · obtain ⟨w, hg, hd, hix⟩ := ArenaSet.of_remove_eq_some hr
    obtain ⟨-, -, hlive⟩ := Arena.of_delete_eq_some hd
    refine ⟨Arena.inv_delete od h.arena hd, fun v j => ?_⟩
    -- `w`, the value under `i`, is live under `i` only: erasing its key mirrors filtering `i` out
    have hw : ∀ j, (j, w) ∈ s.arena.iter → j = i := fun j hj =>
      Option.some.inj (((h.index w j).2 hj).symm.trans ((h.index w i).2 ((Arena.mem_iter _ i w).2 hg)))
    have hi : ∀ v, (i, v) ∈ s.arena.iter → v = w := fun v hv =>
      Option.some.inj (((Arena.mem_iter _ i v).1 hv).symm.trans hg)
    simp only [hix, lookup_eraseKey, hlive, List.mem_filter, Bool.not_eq_true', beq_eq_false_iff_ne, ne_eq]
    by_cases hv : v = w
    · subst hv
      simpa using hw j
    · rw [if_neg hv, h.index v j]
      exact ⟨fun hm => ⟨hm, fun e => hv (hi v (e ▸ hm))⟩, And.left⟩

theorem ArenaSet.step_refines (od : α → α) {s : ArenaSet α} (h : s.Inv) (op : AOp α) :
    ((ArenaSet.step od s op).1.abs, (ArenaSet.step od s op).2) = ASpec.stepWith ASpec.insert s.abs op
    ∧ (ArenaSet.step od s op).1.Inv := by
  have ha := Arena.step_refines od h.arena op
  cases op with
  | alloc v =>
    have := ArenaSet.insert_refines h v
    simp only [ArenaSet.step, ASpec.stepWith]
    rw [← this.1]
    exact ⟨rfl, this.2⟩
  | delete i =>
    have := ArenaSet.remove_refines od h i
    simp only [ArenaSet.step, ASpec.stepWith]
    cases hd : s.remove od i with
    | none => rw [hd] at this; simp [← this.1, h]
    | some s' => rw [hd] at this; simp [← this.1, this.2 s' rfl]
  -- the remaining operations only read the arena
  | _ => exact ⟨ha.1, h⟩

theorem ArenaSet.run_refines (od : α → α) (ops : List (AOp α)) {s : ArenaSet α} (h : s.Inv) :
    ((ArenaSet.run od s ops).1.abs, (ArenaSet.run od s ops).2) = ASpec.runSet s.abs ops
    ∧ (ArenaSet.run od s ops).1.Inv := by
  induction ops generalizing s with
  | nil => exact ⟨rfl, h⟩
  | cons op ops ih =>
    obtain ⟨hs, hi⟩ := ArenaSet.step_refines od h op
    obtain ⟨hr, hi'⟩ := ih hi
    refine ⟨?_, hi'⟩
    simp only [ArenaSet.run, ASpec.runSet, ASpec.runWith, ← hs]
    rw [← ASpec.runSet, ← hr]

end Walrus
