import Walrus.Proofs.GcCodeEmit
import Walrus.Proofs.PlainEmit
import Walrus.Proofs.Shape

/-!
# C02 (continued) — after the GC pass, and without a pass, every section finds the indices it needs

`Props/C02.lean` proves that a lookup fails only on an entity without an emitted index; this file, that
this does not happen.  After the GC pass every section is emitted with the same maps (`gcMaps_eq`), in
which every used entity that exists has an index (`used_has_index`); the used set is closed under every
edge the pass scans (`usedSet_succ`), and what a section names on behalf of a kept entity is one of its
successors.  So for every module whose references are in range (`gcWF`) and well-shaped (`SectionsWF`,
`BodiesWF`: what decoding and validation guarantee) `gcRoundTrip` answers; the code section by
`emitCodeWith_isSome`, which holds for any keep-set.  Without a pass everything in range is kept, and
`roundTripModule` answers.  What remains outside a theorem for C02: validity of the output (wasmparser's
verdict) and emission after builder edits.
-/
namespace Walrus
namespace C02

/-- **after GC, no section outside the code section is left without an emitted index**: if the code
    section emits, the whole module does — imports, globals, exports, start, element and data segments
    find the index of everything they name (in the real code: no `get_*_index` panic).  The keep-set
    written out in `hoc` is `gcKeep g m`. -/
theorem after_gc_every_section_emits (m : ModuleM) (g : GcInfo) (hg : mkGcInfo m = some g)
    (hlen : m.code.length = m.funcs.length) (hw : gcWF g = true) (hs : SectionsWF m) (oc : OutCode)
    (hoc : emitCodeWith (codeOf m) g.pfs
      ⟨keptOf (usedSet g) "f" (g.nif + m.funcs.length), keptOf (usedSet g) "y" (distinctSigs m.sigs).length,
       { tables := compact (keptOf (usedSet g) "t" (g.nit + m.tables.length)),
         mems := compact (keptOf (usedSet g) "m" (g.nim + m.mems.length)),
         globals := compact (keptOf (usedSet g) "g" (g.nig + m.globals.length)),
         elems := compact (keptOf (usedSet g) "e" m.elems.length),
         datas := compact (keptOf (usedSet g) "d" m.datas.length) }⟩ = some oc) :
    (gcRoundTrip m).isSome = true :=
  gc_sections_emit m g hg hlen hw hs oc hoc

/-- the pieces, each usable on its own: every used function that exists has a function index … -/
theorem kept_function_has_an_index (m : ModuleM) (g : GcInfo) (hg : mkGcInfo m = some g)
    (hlen : m.code.length = m.funcs.length) (ky : List Nat) (other : IdMaps) (oc : OutCode)
    (hoc : emitCodeWith (codeOf m) g.pfs ⟨keptOf (usedSet g) "f" (g.nif + m.funcs.length), ky, other⟩ = some oc)
    (f : Nat) (hf : ("f", f) ∈ usedSet g) (hr : ("f", f) ∈ entUniverse g) :
    (assoc (gcFuncMap g m oc) f).isSome = true := by
  obtain ⟨hp, _, hnif, _⟩ := mkGcInfo_spec m g hg
  have hlt : f < g.nif + m.funcs.length := by
    -- of the seven alternatives only the first speaks of "f"
    rw [← pfs_length m g hg hlen]
    simpa using (mem_entUniverse g "f" f).1 hr
  have hk := mem_keptOf.2 ⟨hlt, hf⟩
  rw [gcFuncMap_eq m g hg ky other oc hoc]
  exact funcMapOf_isSome (codeOf m) g.pfs hp _ f
    (by rw [codeOf_funcs_length m hlen]; rw [hnif] at hlt; exact hlt) (by simpa using hk)

/-- … and every used type id has a type index -/
theorem kept_type_has_an_index (g : GcInfo) (m : ModuleM) (tid : Nat) (hr : tid < (distinctSigs m.sigs).length)
    (hu : ("y", tid) ∈ usedSet g) : (assoc (gcTyMap g m) tid).isSome = true :=
  (tyMapOf_isSome_iff (codeOf m) (gcKeep g m) tid).2 ⟨by simpa [gcKeep] using mem_keptOf.2 ⟨hr, hu⟩, hr⟩

/-- **after GC, every entity operand of every instruction of every kept function has an emitted
    index** in the maps its body is emitted with (`mapsOf`: the maps of `emitCodeWith`): functions,
    tables, memories, globals, data and element segments, the types of `call_indirect` and of block
    types.  Together with `after_gc_every_section_emits` this is the statement "no entity that is
    still referenced is left without an emitted index" for the whole module.  (That the code
    section's *structure* then emits — branch targets resolve, the traversal terminates — is
    `parsed_body_emission_fails_only_on_a_lookup` below.) -/
theorem after_gc_every_body_operand_has_an_index (m : ModuleM) (g : GcInfo) (hg : mkGcInfo m = some g)
    (hlen : m.code.length = m.funcs.length) (hw : gcWF g = true) (f : Nat) (pf : ParsedFunc)
    (hloc : ¬ f < g.nif) (hpf : g.pfs[f - g.nif]? = some pf) (hf : ("f", f) ∈ usedSet g)
    (lmap : List (Nat × Nat)) (y : Ent) (hy : y ∈ refsOfBody pf.seqs)
    (hty : y.1 = "y" → y.2 < (distinctSigs m.sigs).length) :
    ((mapsOf (codeOf m) g.pfs (gcKeep g m) lmap).get y.1 y.2).isSome = true := by
  have hflt : f < g.nif + g.pfs.length := by
    have := (List.getElem?_eq_some_iff.1 hpf).1
    omega
  exact referent_has_index m g hg hlen hw ("f", f) y hf ((mem_entUniverse g "f" f).2 (Or.inl ⟨rfl, hflt⟩))
    (by rw [gcSucc_local g f pf hloc hpf]; exact List.mem_cons_of_mem _ hy) hty lmap

-- non-vacuity: a module with an export, a start function, an imported and a local global, an active
-- data and element segment satisfies the hypotheses, and the model's GC round trip answers
def sample : ModuleM :=
  { sigs := [([], [])], imports := [("env", "g", .global ⟨"i32", false, false⟩), ("env", "f", .func 0)],
    funcs := [0, 0], tables := [⟨"funcref", 2, none, false⟩], mems := [⟨1, none, false, false, none⟩],
    globals := [(⟨"i32", false, false⟩, [⟨"GlobalGet", [.ref "g" 0]⟩])],
    exports := [("run", "f", 1), ("t", "t", 0)], start := some 1,
    elems := [⟨0, .active none [⟨"GlobalGet", [.ref "g" 0]⟩], .funcs [0, 2]⟩],
    datas := [⟨0, .active 0 [⟨"I32Const", [.num 8]⟩], "00"⟩],
    code := [([], [(⟨"GlobalGet", [.ref "g" 1]⟩, 0), (⟨"Drop", []⟩, 0), (⟨"End", []⟩, 0)]),
             ([], [(⟨"End", []⟩, 0)])] }

example : (mkGcInfo sample).map gcWF = some true := by decide +kernel
-- the body of the first local function (function 1: function 0 is the import) names global 1, the local one
example : (mkGcInfo sample).map (fun g => (g.pfs.map fun pf => (refsOfBody pf.seqs).filter (·.1 ≠ "y"))) =
    some [[("g", 1)], []] := by decide +kernel
example : (gcRoundTrip sample).map (fun o => (o.imports.length, o.funcs.length, o.globals.length, o.elems.length, o.datas.length)) =
    some (2, 2, 1, 1, 1) := by decide +kernel

/-- **after GC, the code section emits**: for every module whose references are in range (`gcWF`)
    and whose function bodies are well-nested, carry immediates where the binary format has them
    and parse (`BodiesWF`: what the decoder and the validator guarantee, in the tree terms of the
    C03 theorems), the emission of the type, function and code sections after the pass answers:
    the traversal of every kept body finishes within the model's fuel, every branch target
    resolves, the block-kind stack never underflows, and every lookup the `Emit` visitor makes —
    entity operands, locals (`emit_locals` covers every local the body uses), block types, the
    function's own type — finds an index. -/
theorem after_gc_the_code_section_emits (m : ModuleM) (g : GcInfo) (hg : mkGcInfo m = some g)
    (hlen : m.code.length = m.funcs.length) (hw : gcWF g = true) (hb : BodiesWF m g) :
    (emitCodeWith (codeOf m) g.pfs (gcKeep g m)).isSome = true :=
  gc_code_section_emits m g hg hlen hw hb

/-- **after GC, the whole module emits** (the model's `parse → gc::run → emit` answers, i.e. no
    `get_*_index` of an entity without an emitted index, no unresolved branch target, no missing
    local): `after_gc_the_code_section_emits` discharges the one hypothesis
    `after_gc_every_section_emits` left open. What remains outside a theorem for C02 is the
    verdict of the validator on the bytes. -/
theorem after_gc_the_whole_module_emits (m : ModuleM) (g : GcInfo) (hg : mkGcInfo m = some g)
    (hlen : m.code.length = m.funcs.length) (hw : gcWF g = true) (hs : SectionsWF m) (hb : BodiesWF m g) :
    (gcRoundTrip m).isSome = true := by
  obtain ⟨oc, hoc⟩ := Option.isSome_iff_exists.1 (gc_code_section_emits m g hg hlen hw hb)
  exact after_gc_every_section_emits m g hg hlen hw hs oc hoc

/-- emission of one parsed body fails only if a lookup fails (any maps, no pass needed): the fuel
    suffices, branch targets resolve, the kind stack never underflows -/
theorem parsed_body_emission_fails_only_on_a_lookup (mp : IdMaps) (e : PEnv) (entryTy : Nat) (body : PL)
    (hw : body.WF) (hc : body.Clean) (endLoc : Nat) (is : List (BInstr × Nat)) (cs : List PSeq) (u : Bool)
    (h : expL e [0] 1 false body = some (is, cs, u)) :
    ∃ seqs, buildBody e entryTy (body.flat ++ [(opEnd, endLoc)]) = some seqs ∧
      ((∀ ev ∈ (bodyEvents (PSeqs.toArena seqs) (arenaFuel (PSeqs.toArena seqs)) 0).2.tail, evOKp e mp ev) →
        (emitBodyMarks mp (PSeqs.toArena seqs) 0).isSome = true) :=
  parsed_body_emits mp e entryTy body hw hc endLoc is cs u h

/-- the source tree of the body of the first local function of `sample` -/
def sampleBody0 : PL := .cons (.op ⟨"GlobalGet", [.ref "g" 1]⟩ 0) (.cons (.op ⟨"Drop", []⟩ 0) .nil)

-- non-vacuity: the sample module satisfies every hypothesis of `after_gc_the_whole_module_emits`
example : ∃ g, mkGcInfo sample = some g ∧ sample.code.length = sample.funcs.length ∧ gcWF g = true ∧
    BodiesWF sample g :=
  ⟨_, rfl, by decide, by decide, bodiesOK_sound sample _ rfl (by decide +kernel)⟩

/-- **the same with every hypothesis decidable** — and evaluated by the model driver on every case
    of the correspondence run (`gcWF`: "reference-out-of-range", `bodiesOK`: "body-not-well-nested",
    `sectionsOK`: "section-not-well-formed"; a case on which one of them failed would be answered
    with that word instead of a module and show as a disagreement): whenever the checks pass, the
    model's `parse → gc::run → emit` answers with a module -/
theorem after_gc_the_whole_module_emits_checked (m : ModuleM) (g : GcInfo) (hg : mkGcInfo m = some g)
    (hlen : m.code.length = m.funcs.length) (hw : gcWF g = true) (hs : sectionsOK m = true)
    (hb : bodiesOK m g = true) : (gcRoundTrip m).isSome = true :=
  after_gc_the_whole_module_emits m g hg hlen hw (sectionsOK_sound m hs) (bodiesOK_sound m g hg hb)

example : (mkGcInfo sample).map (fun g => (gcWF g, bodiesOK sample g, sectionsOK sample)) = some (true, true, true) := by
  decide +kernel

/-- **emitting immediately after parsing**: if the model's parse of the code-related sections
    succeeds and the hypotheses in decidable form hold (bodies well-nested and clean — `bodiesOKc` —,
    constant expressions well-shaped, function references in range: what decoding and validation
    guarantee; the driver evaluates them on every `module` request), the model's `parse → emit`
    answers with a module: no lookup of an index, a branch target or a local fails anywhere -/
theorem parse_then_emit_answers_checked (m : ModuleM) (pfs : List ParsedFunc)
    (hlen : m.code.length = m.funcs.length) (hp : parseCode (codeOf m) = some pfs)
    (hb : bodiesOKc m pfs = true) (hs : sectionsOK m = true) (hr : funcRefsOK m = true) :
    (roundTripModule m).isSome = true :=
  plain_module_emits m pfs hlen hp (bodiesOKc_sound m pfs hb) hs hr

example : (parseCode (codeOf sample)).map (fun pfs => (bodiesOKc sample pfs, sectionsOK sample, funcRefsOK sample)) =
    some (true, true, true) := by decide +kernel
example : (roundTripModule sample).isSome = true := by decide +kernel

/-- **the two totality theorems with hypotheses on the input alone**: for a well-nested body the
    success of the parse already is the answer of its tree-level description
    (`expL_of_buildBody`, Proofs/ParseConverse: the converse of the C03 parse theorem), so the only
    hypotheses left are the shape of the bodies (`shapesOK`), of the other sections (`sectionsOK`,
    `funcRefsOK`) and, for the pass, that references are in range (`gcWF`) — and that the model's
    parse answered. After GC: -/
theorem after_gc_the_whole_module_emits_by_shape (m : ModuleM) (g : GcInfo) (hg : mkGcInfo m = some g)
    (hlen : m.code.length = m.funcs.length) (hw : gcWF g = true) (hs : sectionsOK m = true)
    (hb : shapesOK m = true) : (gcRoundTrip m).isSome = true := by
  obtain ⟨hp, _⟩ := mkGcInfo_spec m g hg
  exact after_gc_the_whole_module_emits m g hg hlen hw (sectionsOK_sound m hs)
    (bodiesWFc_of_shape (codeOf m) g.pfs hp (shapesOK_sound m hb))

/-- … and without a pass -/
theorem parse_then_emit_answers_by_shape (m : ModuleM) (pfs : List ParsedFunc)
    (hlen : m.code.length = m.funcs.length) (hp : parseCode (codeOf m) = some pfs)
    (hb : shapesOK m = true) (hs : sectionsOK m = true) (hr : funcRefsOK m = true) :
    (roundTripModule m).isSome = true :=
  plain_module_emits m pfs hlen hp (bodiesWFc_of_shape (codeOf m) pfs hp (shapesOK_sound m hb)) hs hr

example : shapesOK sample = true := by decide +kernel

end C02
end Walrus
