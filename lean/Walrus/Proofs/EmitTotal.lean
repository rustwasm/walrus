import Walrus.Proofs.RoundTripBody

/-!
Emission of a parsed body is total: the fuel the model gives the traversal is enough for every
parsed body (`parsed_fuel_suffices`), and the `Emit` visitor fails on a parsed body only if one of
the id → index lookups it makes fails (`parsed_body_emits`): branch targets always resolve, the
block-kind stack never underflows.
-/
namespace Walrus

/-- loop iterations the sequences `cs` cost: one per instruction and one per sequence -/
def wt (cs : List PSeq) : Nat := (cs.map (fun q => q.instrs.length + 1)).sum

theorem wt_cons (q : PSeq) (cs : List PSeq) : wt (q :: cs) = q.instrs.length + 1 + wt cs := by simp [wt]
theorem wt_append (a b : List PSeq) : wt (a ++ b) = wt a + wt b := by simp [wt]
theorem wt_nil : wt [] = 0 := rfl

theorem costL_app {σ ι : Type} : (a b : TL σ ι) → costL (TL.app a b) = costL a + costL b
  | .nil, b => by simp [TL.app, costL]
  | .cons h t, b => by simp [TL.app, costL, costL_app t b]; omega

theorem costL_leafTL : (l : List (BInstr × Nat)) → costL (leafTL l) = l.length
  | [] => by simp [leafTL, costL]
  | i :: r => by simp [leafTL, costL, costI, costL_leafTL r]; omega

/-- A construct in a dead frame leaves no instruction and no tree; its sequences are allocated all the
    same (`k` is what they cost). -/
theorem costL_construct {unr : Bool} {n : TI LSeqTy LInstr} {i : BInstr × Nat} {t2 : TL LSeqTy LInstr}
    {i2 : List (BInstr × Nat)} {k : Nat} (h : costI n + costL t2 ≤ i2.length + k) :
    costL (TL.app (if unr then .nil else .cons n .nil) t2) ≤ ((if unr then [] else [i]) ++ i2).length + k := by
  cases unr with
  | false => simp [costL_app, costL]; omega  -- live: one instruction pays for the node
  | true => simp [costL_app, costL]; omega   -- dead: neither is there

theorem ExpL.cost {e : PEnv} {ids next unr l is cs u t} (h : ExpL e ids next unr l is cs u t) :
    costL t ≤ is.length + wt cs := by
  induction h with
  | nil => simp [costL]
  | op _ _ iht => simp only [costL_app, costL_leafTL, List.length_append]; omega
  | blk _ _ _ ihb iht => exact costL_construct (by simp only [costI, wt_cons, wt_append]; omega)
  | if1 _ _ _ ihb iht => exact costL_construct (by simp only [costI, costL, wt_cons, wt_append, wt_nil]; omega)
  | if2 _ _ _ _ ihb ihe iht => exact costL_construct (by simp only [costI, wt_cons, wt_append]; omega)

theorem cost_I (e : PEnv) : (i : PI) → ∀ (ids : List Nat) (next : Nat) (unr : Bool)
    (is : List (BInstr × Nat)) (cs : List PSeq) (u : Bool) (t : TL LSeqTy LInstr),
    expI e ids next unr i = some (is, cs, u) → treeI e ids next unr i = some t →
    costL t ≤ is.length + wt cs :=
  fun _ _ _ _ _ _ _ _ h ht => (ExpL.single h ht).cost

theorem foldl_fuel (l : BArena) (acc : Nat) :
    l.foldl (fun n p => n + 2 + p.2.2.length) acc = acc + (l.map (fun p => 2 + p.2.2.length)).sum := by
  induction l generalizing acc with
  | nil => simp
  | cons h t ih => simp only [List.foldl_cons, ih, List.map_cons, List.sum_cons]; omega

theorem arenaFuel_toArena (seqs : List PSeq) :
    arenaFuel (PSeqs.toArena seqs) = 2 * (seqs.map (fun q => 2 + q.instrs.length)).sum + 4 := by
  have : ((fun p : Nat × LSeqTy × List (TInstr LInstr) => 2 + p.2.2.length) ∘
      fun p : PSeq × Nat => (p.2, (p.1.ty, p.1.fin), List.map bT p.1.instrs)) =
      (fun q : PSeq => 2 + q.instrs.length) ∘ Prod.fst := by
    funext p; simp
  unfold arenaFuel PSeqs.toArena
  rw [foldl_fuel, List.map_map, this, ← List.map_map, List.zipIdx_map_fst, Nat.zero_add]

theorem wt_le (cs : List PSeq) : wt cs ≤ (cs.map (fun q => 2 + q.instrs.length)).sum := by
  induction cs with
  | nil => simp [wt]
  | cons q r ih => simp only [wt_cons, List.map_cons, List.sum_cons]; omega

/-- the traversal of a parsed body finishes within the fuel the model gives it -/
theorem parsed_fuel_suffices (e : PEnv) (body : PL) (is : List (BInstr × Nat)) (cs : List PSeq) (u : Bool)
    (t : TL LSeqTy LInstr) (h : expL e [0] 1 false body = some (is, cs, u)) (ht : treeL e [0] 1 false body = some t)
    (ty : SeqTy) (fin : Nat) :
    costL t + 1 ≤ arenaFuel (PSeqs.toArena (⟨ty, is, fin⟩ :: cs)) := by
  have h1 := (ExpL.of_eq h ht).cost
  have h2 := wt_le cs
  rw [arenaFuel_toArena]
  simp only [List.map_cons, List.sum_cons]
  omega

/-- the lookups the `Emit` visitor makes for one event, as far as a parsed body can ask for them:
    the entity operands of a plain instruction (labels are not entities; every operand id came out
    of the parse-time index → id maps) and the type of a sequence -/
def evOKp (e : PEnv) (m : IdMaps) : EEv → Prop
  | .instr (.leaf op) _ => ∀ sp n, Arg.ref sp n ∈ op.args → sp ≠ "l" → sp ∈ entSpaces →
      (∃ i, e.get sp i = some n) → (m.get sp n).isSome = true
  | .start _ (.multi y) => y ∈ e.types → (assoc m.types y).isSome = true
  | _ => True

theorem pMapArgs_refs (e : PEnv) (args a : List Arg) (h : pMapArgs e args = some a) (sp : String) (n : Nat)
    (hm : Arg.ref sp n ∈ a) : ∃ i, Arg.ref sp i ∈ args ∧ e.get sp i = some n :=
  mapRef_mapM_refs e.get args a ((pMapArgs_eq_mapM e args).symm.trans h) sp n hm

theorem seqTyOfBt_multi (e : PEnv) (bt : BT) (y : Nat) (h : seqTyOfBt e bt = some (.multi y)) : y ∈ e.types := by
  cases bt with
  | empty | val _ => simp [seqTyOfBt] at h
  | idx idx =>
    simp only [seqTyOfBt] at h
    split at h
    · cases h
    · split at h
      · cases h
      · cases h
      · obtain ⟨a, ha, hy⟩ := Option.map_eq_some_iff.1 h
        cases hy
        exact List.mem_of_getElem? ha

theorem blockTy_of_evOKp {e : PEnv} {m : IdMaps} {o : Op} {ty : SeqTy} (s : Nat)
    (hty : (btOf o).bind (seqTyOfBt e) = some ty) (hok : evOKp e m (.start s ty)) :
    (blockTy m ty).isSome = true := by
  cases ty with
  | empty | val _ => rfl
  | multi y =>
    obtain ⟨bt, -, hbt⟩ := Option.bind_eq_some_iff.1 hty
    simpa [blockTy] using hok (seqTyOfBt_multi e bt y hbt)

theorem walkL_app {σ ι ε : Type} (evS : Nat → σ → List ε) (evI : ι → List ε) (evE : Nat → σ → List ε) :
    (a b : TL σ ι) → walkL evS evI evE (TL.app a b) = walkL evS evI evE a ++ walkL evS evI evE b
  | .nil, b => by simp [TL.app, walkL]
  | .cons h t, b => by simp [TL.app, walkL, walkL_app evS evI evE t b]

theorem outLeaf_total {e : PEnv} {m : IdMaps} {ids : List Nat} {o : Op} {loc : Nat} (hc : opClean o)
    {ri : List (BInstr × Nat)} {ru : Bool} (hl : leafEffect e ids false o loc = some (ri, ru))
    (hok : ∀ ev ∈ walkL evStart evInstr evEnd (leafTL ri), evOKp e m ev) :
    (outLeaf e m o loc).isSome = true := by
  have hn := leafClass_spec o.name
  rw [leafEffect_eq] at hl
  rw [outLeaf_eq]
  cases hcl : leafClass o.name <;> simp only [hcl] at hl hn ⊢
  case br | brIf | brTable =>
    split at hl
    · simp [*]
    · cases hl
  case ret => simp [hc.1 hn, mapArgs]
  case nop => rfl
  case plain =>
    -- the one real lookup: every operand came out of the parse-time map, so `hok` covers it
    obtain ⟨a, hp, h⟩ := Option.map_eq_some_iff.1 hl
    cases h
    have hev := hok (.instr (.leaf ⟨o.name, a⟩) loc) (by simp [leafTL, walkL, walkKids, evInstr, TI.toInstr])
    simp only [outArgs, hp, Option.bind_some, Option.isSome_map, mapArgs_eq_mapM, mapRef_mapM_isSome_iff]
    intro sp n hm
    obtain ⟨i, hi, hg⟩ := pMapArgs_refs e _ a hp sp n hm
    have hi' := wrapOffsets_refs sp i _ hi
    refine hev sp n hm ?_ (hc.2.2 sp i hi') ⟨i, hg⟩
    rintro rfl
    rcases hc.2.1 i hi' with h | h | h
    · exact hn.1 h
    · exact hn.2.1 h
    · exact hn.2.2.1 h

theorem flatten_blk_isSome {e : PEnv} {m : IdMaps} {ids : List Nat} {unr : Bool} {o : Op} {ty : SeqTy} {s loc endLoc : Nat}
    {bt : TL LSeqTy LInstr} (hty : (btOf o).bind (seqTyOfBt e) = some ty)
    (hok : ∀ ev ∈ walkL evStart evInstr evEnd (if unr then .nil else
      .cons (.one ((if o.name = "Block" then BInstr.block s else BInstr.loop s), loc) s (ty, endLoc) bt) .nil), evOKp e m ev)
    (ihb : (∀ ev ∈ walkL evStart evInstr evEnd bt, evOKp e m ev) → (flattenL m (s :: ids) bt).isSome = true) :
    (flattenL m ids (if unr then .nil else
      .cons (.one ((if o.name = "Block" then BInstr.block s else BInstr.loop s), loc) s (ty, endLoc) bt) .nil)).isSome = true := by
  cases unr with
  | true => rfl
  | false =>
    simp only [Bool.false_eq_true, if_false, walkL, walkKids, evStart, List.mem_append, List.mem_singleton] at hok
    obtain ⟨bty, hbt⟩ := Option.isSome_iff_exists.1 (blockTy_of_evOKp s hty (hok _ (by simp)))
    obtain ⟨body, hb⟩ := Option.isSome_iff_exists.1 (ihb fun ev h => hok ev (by simp [h]))
    by_cases hn : o.name = "Block" <;> simp [flattenL_single, flattenI, hbt, hb, hn]

theorem flatten_if_isSome {e : PEnv} {m : IdMaps} {ids : List Nat} {unr : Bool} {o : Op} {ty : SeqTy} {c a loc l1 l2 : Nat}
    {tt te : TL LSeqTy LInstr} (hty : (btOf o).bind (seqTyOfBt e) = some ty)
    (hok : ∀ ev ∈ walkL evStart evInstr evEnd (if unr then .nil else
      .cons (.two (BInstr.ifElse c a, loc) c (ty, l1) tt a (ty, l2) te) .nil), evOKp e m ev)
    (ihb : (∀ ev ∈ walkL evStart evInstr evEnd tt, evOKp e m ev) → (flattenL m (c :: ids) tt).isSome = true)
    (ihe : (∀ ev ∈ walkL evStart evInstr evEnd te, evOKp e m ev) → (flattenL m (a :: ids) te).isSome = true) :
    (flattenL m ids (if unr then .nil else
      .cons (.two (BInstr.ifElse c a, loc) c (ty, l1) tt a (ty, l2) te) .nil)).isSome = true := by
  cases unr with
  | true => rfl
  | false =>
    simp only [Bool.false_eq_true, if_false, walkL, walkKids, evStart, List.mem_append, List.mem_singleton] at hok
    obtain ⟨bty, hbt⟩ := Option.isSome_iff_exists.1 (blockTy_of_evOKp c hty (hok _ (by simp)))
    obtain ⟨x, hb⟩ := Option.isSome_iff_exists.1 (ihb fun ev h => hok ev (by simp [h]))
    obtain ⟨y, he⟩ := Option.isSome_iff_exists.1 (ihe fun ev h => hok ev (by simp [h]))
    simp [flattenL_single, flattenI, hbt, hb, he]

theorem flatten_leaf_isSome {e : PEnv} {m : IdMaps} {ids : List Nat} {unr ru : Bool} {o : Op} {loc : Nat}
    {ri : List (BInstr × Nat)} (hnd : ids.Nodup) (hc : opClean o) (hl : leafEffect e ids unr o loc = some (ri, ru))
    (hok : ∀ ev ∈ walkL evStart evInstr evEnd (leafTL ri), evOKp e m ev) :
    (flattenL m ids (leafTL ri)).isSome = true := by
  cases unr with
  | true => rw [(leaf_unreachable hl).1]; rfl
  | false =>
    rw [(leaf_reachable m hnd hl).1]
    exact outLeaf_total hc hl hok

theorem flattenL_app_isSome {e : PEnv} {m : IdMaps} {ctx : List Nat} {a b : TL LSeqTy LInstr}
    (hok : ∀ ev ∈ walkL evStart evInstr evEnd (TL.app a b), evOKp e m ev)
    (ha : (∀ ev ∈ walkL evStart evInstr evEnd a, evOKp e m ev) → (flattenL m ctx a).isSome = true)
    (hb : (∀ ev ∈ walkL evStart evInstr evEnd b, evOKp e m ev) → (flattenL m ctx b).isSome = true) :
    (flattenL m ctx (TL.app a b)).isSome = true := by
  simp only [walkL_app, List.mem_append] at hok
  obtain ⟨x, hx⟩ := Option.isSome_iff_exists.1 (ha fun ev h => hok ev (.inl h))
  obtain ⟨y, hy⟩ := Option.isSome_iff_exists.1 (hb fun ev h => hok ev (.inr h))
  simp [flattenL_app, hx, hy]

/-- the tree of a parsed body is emitted whenever the lookups its events ask for succeed -/
theorem ExpL.flatten_isSome {e : PEnv} (m : IdMaps) {ids next unr l is cs u t} (h : ExpL e ids next unr l is cs u t)
    (hfr : Fresh ids next) (hc : l.Clean)
    (hok : ∀ ev ∈ walkL evStart evInstr evEnd t, evOKp e m ev) : (flattenL m ids t).isSome = true := by
  induction h with
  | nil => rfl
  | op hl _ iht => exact flattenL_app_isSome hok (flatten_leaf_isSome hfr.1 hc.1 hl) (iht hfr hc.2)
  | blk hty _ _ ihb iht =>
    exact flattenL_app_isSome hok (fun hok => flatten_blk_isSome hty hok (ihb hfr.push hc.1))
      (iht (hfr.mono (Nat.le_add_right _ _)) hc.2)
  | if1 hty _ _ ihb iht =>
    exact flattenL_app_isSome hok (fun hok => flatten_if_isSome hty hok (ihb hfr.push hc.1) fun _ => rfl)
      (iht (hfr.mono (Nat.le_add_right _ _)) hc.2)
  | if2 hty _ _ _ ihb ihe iht =>
    exact flattenL_app_isSome hok
      (fun hok => flatten_if_isSome hty hok (ihb hfr.push hc.1.1) (ihe (hfr.mono (by omega)).push hc.1.2))
      (iht (hfr.mono (Nat.le_add_right _ _)) hc.2)

theorem outI_total (e : PEnv) (m : IdMaps) : (i : PI) → ∀ (ids : List Nat) (next : Nat) (unr : Bool)
    (is : List (BInstr × Nat)) (cs : List PSeq) (u : Bool) (t : TL LSeqTy LInstr),
    expI e ids next unr i = some (is, cs, u) → treeI e ids next unr i = some t →
    ids.Nodup → (∀ x ∈ ids, x < next) →
    i.Clean → (∀ ev ∈ walkL evStart evInstr evEnd t, evOKp e m ev) → (outI e m unr i).isSome = true := by
  intro i ids next unr is cs u t h ht hnd hf hc hok
  have hs := ExpL.single h ht
  have := hs.flatten_isSome m ⟨hnd, hf⟩ ⟨hc, trivial⟩ hok
  rw [(hs.round m ⟨hnd, hf⟩).1, Option.isSome_map] at this
  -- the body made of `i` alone answers only if `i` does
  cases ho : outI e m unr i with
  | none => simp [outL, ho] at this
  | some r => rfl

/-- emission of a parsed body is total up to the lookups: for every well-nested body that
    parses, the traversal finishes within the model's fuel, every branch target resolves and the
    block-kind stack never underflows; `emit::run` answers whenever the operands of the plain
    instructions and the types of the sequences the traversal reports (the function-entry sequence
    aside, whose type is never written) have an emitted index -/
theorem parsed_body_emits (m : IdMaps) (e : PEnv) (entryTy : Nat) (body : PL) (hw : body.WF) (hc : body.Clean) (endLoc : Nat)
    (is : List (BInstr × Nat)) (cs : List PSeq) (u : Bool)
    (h : expL e [0] 1 false body = some (is, cs, u)) :
    ∃ seqs, buildBody e entryTy (body.flat ++ [(opEnd, endLoc)]) = some seqs ∧
      ((∀ ev ∈ (bodyEvents (PSeqs.toArena seqs) (arenaFuel (PSeqs.toArena seqs)) 0).2.tail, evOKp e m ev) →
        (emitBodyMarks m (PSeqs.toArena seqs) 0).isSome = true) := by
  obtain ⟨seqs, t, hb, ht, hg, hv⟩ := parsed_body_has_tree_view e entryTy body hw endLoc is cs u h
  refine ⟨seqs, hb, fun hok => ?_⟩
  have hseqs : seqs = ⟨.multi entryTy, is, endLoc⟩ :: cs :=
    Option.some.inj (hb.symm.trans (buildBody_eq e entryTy body hw endLoc is cs u h))
  have hfuel : costL t + 1 ≤ arenaFuel (PSeqs.toArena seqs) := by
    rw [hseqs]; exact parsed_fuel_suffices e body is cs u t h ht _ _
  have hev := dfsInOrder_eq_walk_steps evStart evInstr evEnd (PSeqs.toArena seqs) 0 (SeqTy.multi entryTy, endLoc) t hg hv
    _ hfuel
  have hok' : ∀ ev ∈ walkL evStart evInstr evEnd t, evOKp e m ev := fun ev hev' =>
    hok ev (by unfold bodyEvents; rw [hev]; simp [walkSeq, evStart, hev'])
  obtain ⟨ops, hops⟩ := Option.isSome_iff_exists.1
    ((ExpL.of_eq h ht).flatten_isSome m ⟨by simp, by simp⟩ hc hok')
  rw [emitBodyMarks_eq_fuel, emitBody_eq_flatten_steps m (PSeqs.toArena seqs) 0 _ t hg hv _ hops _ hfuel]
  rfl

end Walrus
