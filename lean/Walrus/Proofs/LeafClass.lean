import Walrus.SourceTree

/-!
`pstep` (past its structural arms), `leafEffect` and `outLeaf` dispatch on the name of a non-structural
operator through the same chain of tests (`transfers` asks a coarser question of the same names).  `leafClass` names the six outcomes and
`leafClass_elim` turns any such chain into a `match` on the class, so that proofs split on the class
and never on the strings.  Trap: `leafEffect_eq` (here) and `outLeaf_eq` (Proofs/Leaf) stand in
different modules, so their inner `match`es on the labels are different auxiliary functions, and a
`split at h` on one does not split the other.
-/
namespace Walrus

inductive LeafClass | br | brIf | brTable | ret | nop | plain

def leafClass (n : String) : LeafClass :=
  if n = "Br" then .br else if n = "BrIf" then .brIf else if n = "BrTable" then .brTable
  else if n = "Return" || n = "Unreachable" then .ret else if n = "Nop" then .nop else .plain

theorem leafClass_elim {α : Type} (n : String) (a b c d f g : α) :
    (if n = "Br" then a else if n = "BrIf" then b else if n = "BrTable" then c
      else if n = "Return" || n = "Unreachable" then d else if n = "Nop" then f else g) =
    match leafClass n with
    | .br => a | .brIf => b | .brTable => c | .ret => d | .nop => f | .plain => g := by
  unfold leafClass
  by_cases h1 : n = "Br"; · simp only [if_pos h1]
  by_cases h2 : n = "BrIf"; · simp only [if_neg h1, if_pos h2]
  by_cases h3 : n = "BrTable"; · simp only [if_neg h1, if_neg h2, if_pos h3]
  by_cases h4 : (n = "Return" || n = "Unreachable") = true; · simp only [if_neg h1, if_neg h2, if_neg h3, if_pos h4]
  by_cases h5 : n = "Nop"; · simp only [if_neg h1, if_neg h2, if_neg h3, if_neg h4, if_pos h5]
  simp only [if_neg h1, if_neg h2, if_neg h3, if_neg h4, if_neg h5]

theorem leafClass_spec (n : String) :
    match leafClass n with
    | .br => n = "Br" | .brIf => n = "BrIf" | .brTable => n = "BrTable"
    | .ret => n = "Return" ∨ n = "Unreachable" | .nop => n = "Nop"
    | .plain => n ≠ "Br" ∧ n ≠ "BrIf" ∧ n ≠ "BrTable" ∧ n ≠ "Return" ∧ n ≠ "Unreachable" ∧ n ≠ "Nop" := by
  rw [← leafClass_elim]
  by_cases h1 : n = "Br"; · simpa only [if_pos h1]
  by_cases h2 : n = "BrIf"; · simpa only [if_neg h1, if_pos h2]
  by_cases h3 : n = "BrTable"; · simpa only [if_neg h1, if_neg h2, if_pos h3]
  by_cases h4 : (n = "Return" || n = "Unreachable") = true
  · simp only [if_neg h1, if_neg h2, if_neg h3, if_pos h4]
    simpa using h4
  by_cases h5 : n = "Nop"; · simpa only [if_neg h1, if_neg h2, if_neg h3, if_neg h4, if_pos h5]
  simp only [if_neg h1, if_neg h2, if_neg h3, if_neg h4, if_neg h5]
  simp only [Bool.or_eq_true, decide_eq_true_eq, not_or] at h4
  exact ⟨h1, h2, h3, h4.1, h4.2, h5⟩

theorem leafEffect_eq (e : PEnv) (ids : List Nat) (unr : Bool) (o : Op) (loc : Nat) :
    leafEffect e ids unr o loc =
      let emit := fun (i : BInstr) => if unr then [] else [(i, loc)]
      match leafClass o.name with
      | .br => match labelsOf o with
        | [n] => (ids[n]?).map fun b => (emit (.br b), true)
        | _ => none
      | .brIf => match labelsOf o with
        | [n] => (ids[n]?).map fun b => (emit (.brIf b), unr)
        | _ => none
      | .brTable => match (labelsOf o).reverse with
        | d :: ts =>
          match ids[d]?, ts.reverse.mapM (fun n => ids[n]?) with
          | some dd, some tts => some (emit (.brTable tts dd), true)
          | _, _ => none
        | [] => none
      | .ret => some (emit (.leaf o), true)
      | .nop => some ([], unr)
      | .plain => (pMapArgs e (wrapOffsets o.args)).map fun a => (emit (.leaf ⟨o.name, a⟩), unr) :=
  leafClass_elim o.name _ _ _ _ _ _

theorem leafEffect_dead (e : PEnv) (ids : List Nat) (o : Op) (loc : Nat) :
    leafEffect e ids true o loc = (leafEffect e ids false o loc).map fun _ => ([], true) := by
  rw [leafEffect_eq, leafEffect_eq]
  cases leafClass o.name <;> dsimp only
  case br | brIf => split <;> simp [Function.comp_def]
  case brTable =>
    split
    · split <;> simp
    · rfl
  case ret | nop => simp
  case plain => simp [Function.comp_def]

end Walrus
