import Walrus.Run
import Walrus.Proofs.Structure

/-! Elision of `nop`s and of syntactically unreachable code is unobservable (C01). -/
namespace Walrus.Sem

theorem execOp_nop (C : Ctx) (call : CallFn) (o : Op) (s : St) (h : o.name = "Nop") :
    execOp C call o s = .ok s := by
  simp [execOp, isSpecial, execPlain, h]

theorem execOp_endsSeq (C : Ctx) (call : CallFn) (o : Op) (s : St) (h : endsSeq o = true) :
    ∀ s', execOp C call o s ≠ .ok s' := by
  intro s'
  simp only [endsSeq, Bool.or_eq_true, decide_eq_true_eq] at h
  rcases h with ((h | h) | h) | h
  · simp [execOp, isSpecial, execPlain, h]
  · simp [execOp, isSpecial, execPlain, h]
    split <;> simp
  · simp [execOp, isSpecial, execPlain, h]
    split
    · split <;> simp
    · simp
  · simp [execOp, isSpecial, execPlain, h]

theorem execL_cons_of_not_ok (C : Ctx) (R : Rec) (i : SI) (t : SL) (s : St) (h : ∀ s', execI C R i s ≠ .ok s') :
    execL C R (.cons i t) s = execI C R i s := by
  -- `simp` discharges the side condition of the fall-through arm of the `match` with `h`
  simp only [execL]

structure RecRel (R' R : Rec) : Prop where
  call : R'.call = R.call
  loop : ∀ lt bt b s, R'.reLoop lt bt b.elide s = R.reLoop lt bt b s

mutual
theorem elide_execI (C : Ctx) (R' R : Rec) (h : RecRel R' R) :
    (i : SI) → ∀ s, execI C R' i.elide s = execI C R i s
  | .op o, s => by simp [SI.elide, execI, h.call]
  | .block bt b, s => by simp only [SI.elide, execI, elide_execL C R' R h b s]
  | .loop bt b, s => by
      simp only [SI.elide, execI, elide_execL C R' R h b s]
      split <;> simp [h.loop]
  | .ite bt t e, s => by
      simp only [SI.elide, execI, elide_execL C R' R h t, elide_execL C R' R h e]
theorem elide_execL (C : Ctx) (R' R : Rec) (h : RecRel R' R) :
    (l : SL) → ∀ s, execL C R' l.elide s = execL C R l s
  | .nil, s => rfl
  | .cons i t, s => by
      have ihi := elide_execI C R' R h i s
      have iht := elide_execL C R' R h t
      rcases SL.elide_cons i t with ⟨o, rfl, hn, he⟩ | ⟨o, rfl, hs, he⟩ | he
      · simp [he, iht, execL, execI, execOp_nop C R.call o s hn]
      · have hne : ∀ (R : Rec) s', execI C R (.op o) s ≠ .ok s' := fun R => execOp_endsSeq C R.call o s hs
        rw [he, execL_cons_of_not_ok C R _ t s (hne R), execL_cons_of_not_ok C R' _ .nil s (hne R'), ← ihi]
        rfl
      · simp only [he, execL, ihi]
        cases execI C R i s <;> simp [iht]
end

theorem Env.elide_usigs (E : Env) : E.elide.usigs = E.usigs := by
  simp [Env.elide, Env.usigs, List.map_map, Function.comp_def]

theorem Env.elide_ctx (E : Env) (lt : List (Nat × String)) : E.elide.ctx lt = E.ctx lt := by
  unfold Env.ctx
  rw [Env.elide_usigs]
  rfl

theorem callFn_congr {E' E : Env} {R' R : Rec} {u : Nat} (hlen : E'.ufuncs.length = E.ufuncs.length)
    (h : ∀ fi, E.ufuncs[u]? = some fi → ∃ fi', E'.ufuncs[u]? = some fi' ∧ fi'.sig = fi.sig ∧ fi'.imp = fi.imp ∧
      fi'.lt.take fi.sig.1.length = fi.lt.take fi.sig.1.length ∧
      ∀ s, execL (E'.ctx fi'.lt) R' fi'.body s = execL (E.ctx fi.lt) R fi.body s)
    (args : List V) (st : Store) : callFn E' R' u args st = callFn E R u args st := by
  unfold callFn
  split
  · rfl
  · cases hu : E.ufuncs[u]? with
    | none =>
      have : E'.ufuncs[u]? = none := List.getElem?_eq_none_iff.2 (hlen ▸ List.getElem?_eq_none_iff.1 hu)
      simp [this]
    | some fi =>
      obtain ⟨fi', h1, h2, h3, h4, h5⟩ := h fi hu
      simp only [h1, h2, h3]
      cases fi.imp with
      | some p => rfl
      | none => simp only [h4, h5]

theorem callFn_elide (E : Env) (R' R : Rec) (h : RecRel R' R) (u : Nat) (args : List V) (st : Store) :
    callFn E.elide R' u args st = callFn E R u args st :=
  callFn_congr (by simp [Env.elide]) (fun fi hu =>
    ⟨{ fi with body := fi.body.elide }, by simp [Env.elide, hu], rfl, rfl, rfl,
      fun s => by rw [Env.elide_ctx]; exact elide_execL _ R' R h fi.body s⟩) args st

theorem mkRec_elide (E : Env) : ∀ n, RecRel (mkRec E.elide n) (mkRec E n)
  | 0 => ⟨rfl, fun _ _ _ _ => rfl⟩
  | n+1 => by
    have ih := mkRec_elide E n
    constructor
    · funext f args st
      exact callFn_elide E _ _ ih f args st
    · intro lt bt b s
      simp only [mkRec, Env.elide_ctx]
      split
      · rfl
      · exact elide_execI (E.ctx lt) _ _ ih (.loop bt b) _

theorem invoke_elide (E : Env) (gas : Nat) : invoke E.elide gas = invoke E gas := by
  unfold invoke
  rw [(mkRec_elide E (gas + 1)).call]

theorem observe_elide (m : ModuleM) (E : Env) (gas seed rounds : Nat) :
    observeWith m E.elide.resolve E.elide.usigs (invoke E.elide gas) seed rounds =
    observeWith m E.resolve E.usigs (invoke E gas) seed rounds := by
  rw [invoke_elide, Env.elide_usigs]; rfl

end Walrus.Sem
