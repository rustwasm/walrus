import Walrus.Dwarf
import Walrus.Proofs.Offsets
import Walrus.Props.C11

/-!
# C10 — DWARF addresses follow their instructions and functions

Model: `Walrus/Dwarf.lean` (address classification and conversion, `convert_high_pc`, the
line-row loop), on top of the offset bookkeeping proved exact in C11.  gimli's reading and
writing of DWARF is not modelled (trusted, sampled by the correspondence run).

Proved for all inputs: an address that is the start of an input instruction is converted to the
start of the same instruction in the output, relative to the code-section contents; addresses of
removed instructions convert to nothing and their rows are skipped; inside a sequence whose base
precedes the row in the output, the emitted row designates exactly that instruction; a
subprogram whose `low_pc` is classified by function range keeps covering the same function when
the size-LEB length is unchanged.

**Open findings** (the property is false of the unchanged code at these points; each is stated
below as a kernel-checked counterexample of the model and replayed on the implementation by the
oracle): rows of a sequence spanning several functions are clamped to the sequence base when their
function is emitted before it; a `low_pc` is off by the change of the size-LEB length; a
subprogram is tombstoned when the function's first instruction was elided.
-/
namespace Walrus
namespace C10

theorem lookupAddr_mem {l : List (Nat × Nat)} {k v : Nat} (h : lookupAddr l k = some v) : (k, v) ∈ l := by
  induction l with
  | nil => simp [lookupAddr] at h
  | cons x xs ih =>
    obtain ⟨a, b⟩ := x
    unfold lookupAddr at h
    split at h
    · rename_i hk; cases h; subst hk; exact List.mem_cons_self
    · exact List.mem_cons_of_mem _ (ih h)

/-- an address that is the start of an input instruction is classified as that instruction,
    whatever the search preference -/
theorem classify_instruction_start (g : AddrGen) (a loc : Nat) (pref : Pref)
    (h : lookupAddr g.instrs a = some loc) : findAddress g a pref = .instrInFunction loc := by
  simp [findAddress, h]

/-- **its converted value is the output offset of the same instruction, relative to the reported
    code-section start** -/
theorem instruction_address_follows_instruction (g : AddrGen) (ct : CodeTransform) (a loc off : Nat) (pref : Pref)
    (hin : lookupAddr g.instrs a = some loc) (hout : lookupAddr ct.instructionMap loc = some off) :
    convertAddress g ct a pref = some (off - ct.codeSectionStart) := by
  simp [convertAddress, classify_instruction_start g a loc pref hin, convertCode, hout]

/-- **addresses of removed instructions are dropped** -/
theorem removed_instruction_address_dropped (g : AddrGen) (ct : CodeTransform) (a loc : Nat) (pref : Pref)
    (hin : lookupAddr g.instrs a = some loc) (hout : lookupAddr ct.instructionMap loc = none) :
    convertAddress g ct a pref = none := by
  simp [convertAddress, classify_instruction_start g a loc pref hin, convertCode, hout]

/-- a row whose address does not resolve produces no output row and leaves the sequence as it is -/
theorem unresolved_row_is_skipped (g : AddrGen) (ct : CodeTransform) (st : LineSt) (off line b : Nat)
    (hs : st.inSeq = true) (hb : st.seqBase = some b)
    (hr : convertAddress g ct (st.fromBase + off) .inclusiveEnd = none) :
    lineStep g ct st (.row off line) = some st := by
  simp [lineStep, lineStep.emit, hs, hb, hr]

/-- **a row inside an open sequence designates exactly its instruction**, provided the
    instruction does not precede the sequence base in the output -/
theorem row_follows_instruction (g : AddrGen) (ct : CodeTransform) (st : LineSt) (off line b loc o : Nat)
    (hs : st.inSeq = true) (hb : st.seqBase = some b)
    (hin : lookupAddr g.instrs (st.fromBase + off) = some loc)
    (hout : lookupAddr ct.instructionMap loc = some o)
    (hmono : b ≤ o - ct.codeSectionStart) :
    lineStep g ct st (.row off line) =
      some { st with out := st.out ++ [⟨o - ct.codeSectionStart, line, false⟩],
                     lastOff := o - ct.codeSectionStart - b } := by
  have hc := instruction_address_follows_instruction g ct _ loc o .inclusiveEnd hin hout
  simp only [lineStep, lineStep.emit, hs, hb, hc, if_true]
  have : b + (o - ct.codeSectionStart - b) = o - ct.codeSectionStart := by omega
  simp [this]

/-- the first row of a sequence whose base is an instruction start opens the sequence there -/
theorem sequence_begins_at_its_instruction (g : AddrGen) (ct : CodeTransform) (st : LineSt) (line loc o : Nat)
    (hs : st.inSeq = false)
    (hin : lookupAddr g.instrs st.fromBase = some loc)
    (hout : lookupAddr ct.instructionMap loc = some o) :
    lineStep g ct st (.row 0 line) =
      some { st with seqBase := some (o - ct.codeSectionStart), inSeq := true,
                     out := st.out ++ [⟨o - ct.codeSectionStart, line, false⟩], lastOff := 0 } := by
  have hc1 := instruction_address_follows_instruction g ct _ loc o .exclusiveEnd hin hout
  have hc2 := instruction_address_follows_instruction g ct _ loc o .inclusiveEnd hin hout
  simp [lineStep, lineStep.emit, hs, hc1, hc2]

/-- **the end of a sequence that lies in removed code closes the sequence at the last kept row**
    (it used to leave the sequence open, and the next `SetAddress` then made `emit_wasm` panic:
    defect D18): no address of removed code is written, and the loop can go on -/
theorem sequence_end_in_removed_code_closes_at_the_last_kept_row (g : AddrGen) (ct : CodeTransform) (st : LineSt)
    (off b : Nat) (hs : st.inSeq = true) (hb : st.seqBase = some b)
    (hr : convertAddress g ct (st.fromBase + off) .inclusiveEnd = none) :
    lineStep g ct st (.endSequence off) =
      some { st with out := st.out ++ [⟨b + st.lastOff, 0, true⟩], inSeq := false, fromBase := st.fromBase + off } := by
  simp [lineStep, lineStep.emit, hs, hb, hr]

/-- an open sequence has a base (invariant of the row loop) -/
def stOk (st : LineSt) : Prop := st.inSeq = true → st.seqBase.isSome = true

/-- What one row or `end_sequence` does to the sequence state: an open sequence keeps a base, and an
    `end_sequence` (`line = none`) leaves none open, whether or not its address resolved. -/
theorem emit_state (g : AddrGen) (ct : CodeTransform) (st : LineSt) (a : Nat) (line : Option Nat) (h : stOk st) :
    stOk (lineStep.emit g ct st a line) ∧ (line = none → (lineStep.emit g ct st a line).inSeq = false) := by
  unfold lineStep.emit stOk at *
  by_cases hs : st.inSeq = true
  · obtain ⟨b, hb⟩ := Option.isSome_iff_exists.1 (h hs)
    simp only [hs, if_true, hb]
    -- the address resolves or not, for a row or an `end_sequence`
    cases convertAddress g ct a .inclusiveEnd <;> cases line <;> simp [hs, hb]
  · have hs' : st.inSeq = false := by simpa using hs
    simp only [hs', Bool.false_eq_true, if_false]
    cases hc : convertAddress g ct st.fromBase .exclusiveEnd with
    | none => simp
    | some b =>
      simp only [Option.isSome_some, if_true]
      cases convertAddress g ct a .inclusiveEnd <;> cases line <;> simp

theorem emit_ok (g : AddrGen) (ct : CodeTransform) (st : LineSt) (a : Nat) (line : Option Nat) (h : stOk st) :
    stOk (lineStep.emit g ct st a line) :=
  (emit_state g ct st a line h).1

/-- after an `end_sequence` no sequence is open, whether or not its address resolved -/
theorem end_sequence_closes (g : AddrGen) (ct : CodeTransform) (st : LineSt) (a : Nat) (h : stOk st) :
    (lineStep.emit g ct st a none).inSeq = false :=
  (emit_state g ct st a none h).2 rfl

/-- a line program in which every `SetAddress` stands at the start or right after an
    `end_sequence` (what producers write: one `SetAddress` per sequence) -/
def seqShaped : Bool → List LineInstr → Bool
  | _, [] => true
  | closed, .setAddress _ :: r => closed && seqShaped false r
  | _, .row _ _ :: r => seqShaped false r
  | _, .endSequence _ :: r => seqShaped true r

theorem lineRun_total_aux (g : AddrGen) (ct : CodeTransform) : ∀ (prog : List LineInstr) (st : LineSt) (closed : Bool),
    stOk st → (closed = true → st.inSeq = false) → seqShaped closed prog = true → (lineRun g ct st prog).isSome = true
  | [], st, _, _, _, _ => rfl
  | .setAddress a :: r, st, closed, hok, hc, hs => by
      simp only [seqShaped, Bool.and_eq_true] at hs
      have hin := hc hs.1
      simp only [lineRun, lineStep, hin, Bool.false_eq_true, if_false, Option.bind_some]
      exact lineRun_total_aux g ct r _ false (by simp [stOk]) (by simp) hs.2
  | .row off line :: r, st, closed, hok, hc, hs => by
      simp only [seqShaped] at hs
      simp only [lineRun, lineStep, Option.bind_some]
      exact lineRun_total_aux g ct r _ false (emit_ok g ct st _ _ hok) (by simp) hs
  | .endSequence off :: r, st, closed, hok, hc, hs => by
      simp only [seqShaped] at hs
      simp only [lineRun, lineStep, Option.bind_some]
      exact lineRun_total_aux g ct r _ true (emit_ok g ct st _ _ hok)
        (fun _ => end_sequence_closes g ct st _ hok) hs

/-- **the conversion of a line program never fails** (so `emit_wasm` does not panic on it), whatever
    was removed, inserted or reordered: for every address generator and code transform and every
    sequence-shaped program -/
theorem line_program_conversion_is_total (g : AddrGen) (ct : CodeTransform) (prog : List LineInstr)
    (h : seqShaped true prog = true) : (lineRun g ct {} prog).isSome = true :=
  lineRun_total_aux g ct prog {} true (by simp [stOk]) (fun _ => rfl) h

/-- the offsets the bookkeeping assigns inside one function grow with the operator index, so a
    per-function sequence is monotone -/
theorem posOf_mono (f : EmittedFunc) (k k' : Nat) (h : k ≤ k') : f.posOf k ≤ f.posOf k' := by
  -- `posOf k'` is the byte length of `f` cut off after `k'` operators
  simpa [EmittedFunc.posOf, EmittedFunc.byteLen, EmittedFunc.body, List.take_take, Nat.min_eq_left h]
    using EmittedFunc.posOf_le { f with ops := f.ops.take k' } k

/-- with C11: the row's address, rebased by the code-section start, is where the operator's bytes
    begin in the emitted binary -/
theorem row_address_is_operator_start (pre : List UInt8) (fs : List EmittedFunc) (hw : C11.WellIndexed fs)
    (loc o : Nat) (hout : lookupAddr (codeTransform pre.length fs (lebLen fs.length)).instructionMap loc = some o) :
    ∃ f ∈ fs, ∃ k, ∃ (hk : k < f.ops.length), (loc, k) ∈ f.marks ∧
      ∃ rest, (C11.moduleBytes pre fs).drop o = f.ops[k] ++ rest := by
  have hm := lookupAddr_mem hout
  obtain ⟨_, f, hf, k, hk, hmark, rest, hr⟩ :=
    C11.map_entries_point_at_their_instruction pre fs (lebLen fs.length) hw (loc, o) hm
  exact ⟨f, hf, k, hk, hmark, rest, hr⟩

/-- **subprogram ranges (partial)**: a `low_pc` that lies inside function `f` (not at an
    instruction, not one byte before one) at distance `d` from the start of its entry, with
    `low_pc + len` the end of that function, converts to the same distance from the start of the
    output entry and to the output end. With `d` = length of the size LEB this is the body of the
    same function exactly when that length is unchanged. -/
theorem subprogram_range_partial (g : AddrGen) (ct : CodeTransform) (low len f s e d : Nat)
    (hlow : findAddress g low .inclusiveEnd = .offsetInFunction f d)
    (hend : findAddress g (low + len) .inclusiveEnd = .functionEdge f)
    (hr : lookupRange ct.functionRanges f = some (s, e))
    (hne : low ≠ 0 ∧ low ≠ deadCode) :
    convertSubprogram g ct low len = (s + d - ct.codeSectionStart, (e - ct.codeSectionStart) - (s + d - ct.codeSectionStart)) := by
  simp [convertSubprogram, convertAttrAddress, convertAddress, hlow, hend, convertCode, hr, hne.1, hne.2]

/-- D10: two functions in one sequence, the second emitted before the first: its row is clamped to
    the sequence base instead of designating its instruction -/
example :
    let g : AddrGen := ⟨[(1, 5, 0), (5, 9, 1)], [(3, 103), (4, 104), (7, 107), (8, 108)]⟩
    let ct : CodeTransform := ⟨[(103, 27), (104, 28), (107, 23), (108, 24)], 20, [(0, 25, 29), (1, 21, 25)]⟩
    (lineRun g ct {} [.setAddress 3, .row 0 1, .row 1 2, .row 4 3, .row 5 4, .endSequence 6]).map (·.out)
      = some [⟨7, 1, false⟩, ⟨8, 2, false⟩, ⟨7, 3, false⟩, ⟨7, 4, false⟩, ⟨7, 0, true⟩] := by decide +kernel

/-- D11: size LEB two bytes in the input, one byte in the output: `low_pc` lands one byte into the body -/
example :
    let g : AddrGen := ⟨[(1, 200, 0)], [(5, 105)]⟩
    let ct : CodeTransform := ⟨[(105, 24)], 20, [(0, 21, 110)]⟩
    convertSubprogram g ct 3 197 = (3, 87) ∧ (22 : Nat) - 20 = 2 := by decide +kernel

/-- D12: no locals, first instruction (a `nop`) not emitted: the subprogram is tombstoned although
    its function is in the output -/
example :
    let g : AddrGen := ⟨[(1, 9, 0)], [(3, 103), (4, 104)]⟩
    let ct : CodeTransform := ⟨[(104, 23)], 20, [(0, 21, 26)]⟩
    (convertSubprogram g ct 2 7).1 = deadCode := by decide +kernel

/-- non-vacuity of `row_follows_instruction`: a per-function sequence converted exactly -/
example :
    let g : AddrGen := ⟨[(1, 9, 0)], [(3, 103), (4, 104), (6, 106)]⟩
    let ct : CodeTransform := ⟨[(103, 33), (104, 34), (106, 35)], 30, [(0, 31, 38)]⟩
    (lineRun g ct {} [.setAddress 3, .row 0 1, .row 1 2, .row 3 3, .endSequence 6]).map (·.out)
      = some [⟨3, 1, false⟩, ⟨4, 2, false⟩, ⟨5, 3, false⟩, ⟨8, 0, true⟩] := by decide +kernel

end C10
end Walrus
