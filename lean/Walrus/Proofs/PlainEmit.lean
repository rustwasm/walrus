import Walrus.Proofs.BodiesOK

/-!
Emission without a pass (C02, "immediately"): `emit ∘ parse` never fails to find an index, a branch
target or a local.  Everything the parse read is in range and everything in range is kept, so the
type, function and code sections emit by the theorem for any keep-set (`emitCodeWith_isSome`); the other
sections name only entities in range (`funcRefsOK`, `sectionsOK`), which all have an index.
-/
namespace Walrus

theorem plain_code_emits (c : InCode) (pfs : List ParsedFunc) (hp : parseCode c = some pfs) (hb : BodiesWFc c pfs) :
    (emitCode c pfs).isSome = true :=
  emitCodeWith_isSome c pfs hp hb _ (by simp [keepAll]) fun _ _ _ sp n _ hf hy hsp =>
    keepAll_has_index c pfs hp sp n hf hy hsp []

theorem cexpr_plain_emits (maps : IdMaps) (n : Nat) (c : CExprM) (hc : cexprWF c) (hf : cexprFuncsBelow n c = true)
    (hg : ∀ i, (maps.get "g" i).isSome = true) (hfm : ∀ f, f < n → (maps.get "f" f).isSome = true) :
    (mapCExpr maps c).isSome = true := by
  rw [mapCExpr_isSome_iff]
  intro op hop sp id hr
  simp only [cexprFuncsBelow, List.all_eq_true] at hf
  have h2 := hf op hop _ hr
  rcases hc op hop sp id hr with rfl | rfl
  · exact hg id
  · exact hfm id (by simpa using h2)

theorem plain_module_emits (m : ModuleM) (pfs : List ParsedFunc) (hlen : m.code.length = m.funcs.length)
    (hp : parseCode (codeOf m) = some pfs) (hb : BodiesWFc (codeOf m) pfs)
    (hs : sectionsOK m = true) (hr : funcRefsOK m = true) :
    (roundTripModule m).isSome = true := by
  obtain ⟨oc, hoc⟩ := Option.isSome_iff_exists.1 (plain_code_emits (codeOf m) pfs hp hb)
  have hs := sectionsOK_sound m hs
  -- the sections are written with the maps of the code section, in which everything in range has an index
  have hidx : ∀ sp n, (sp = "f" → n < importedCount m "f" + m.funcs.length) →
      (sp = "y" → n < (distinctSigs m.sigs).length) → sp ∈ ["f", "t", "g", "m", "y", "d", "e"] →
      ((rtMaps m oc).get sp n).isSome = true := by
    rw [rtMaps_eq m pfs oc hoc]
    intro sp n hf hy hsp
    exact keepAll_has_index (codeOf m) pfs hp sp n (by rw [codeOf_funcs_length m hlen]; exact hf) hy hsp []
  have hfm : ∀ f, f < importedCount m "f" + m.funcs.length → (assoc (rtMaps m oc).funcs f).isSome = true :=
    fun f hf => by simpa [IdMaps.get] using hidx "f" f (fun _ => hf) (by simp) (by simp)
  have hce : ∀ c, cexprWF c → cexprFuncsBelow (importedCount m "f" + m.funcs.length) c = true →
      (mapCExpr (rtMaps m oc) c).isSome = true := fun c hc hf =>
    cexpr_plain_emits _ _ c hc hf (fun i => hidx "g" i (by simp) (by simp) (by simp))
      (fun f hf => hidx "f" f (fun _ => hf) (by simp) (by simp))
  simp only [funcRefsOK, Bool.and_eq_true, List.all_eq_true] at hr
  obtain ⟨⟨⟨⟨⟨hr1, hr2⟩, hr3⟩, hr4⟩, hr5⟩, hr6⟩ := hr
  have him : (m.imports.mapM (rtImport m.sigs)).isSome = true := by
    rw [mapM_isSome_iff]
    intro i hi
    unfold rtImport
    cases hd : i.2.2 with
    | func t =>
      obtain ⟨tid, htid, htidlt⟩ := dedupIds_get m.sigs t (hs.importTypes i hi t hd)
      simp only [htid, Option.bind_some, Option.isSome_map]
      simpa [IdMaps.get] using hidx "y" tid (by simp) (fun _ => htidlt) (by simp)
    | _ => rfl
  have hgl : (m.globals.mapM (rtGlobal (rtMaps m oc))).isSome = true := by
    rw [mapM_isSome_iff]
    intro gl hgl
    rw [rtGlobal, Option.isSome_map]
    exact hce gl.2 (hs.globalInits gl hgl) (hr3 gl hgl)
  have hex : (m.exports.mapM (rtExport (rtMaps m oc).funcs)).isSome = true := by
    rw [mapM_isSome_iff]
    intro e he
    unfold rtExport
    split
    · rename_i hk
      rw [Option.isSome_map]
      exact hfm _ (by simpa [hk] using hr1 e he)
    · rfl
  have hst : (rtStart (rtMaps m oc).funcs m.start).isSome = true := by
    cases hst : m.start with
    | none => rfl
    | some s =>
      rw [rtStart, Option.isSome_map]
      exact hfm s (by simpa [hst] using hr2)
  have hel : (m.elems.mapM (rtElem (rtMaps m oc).funcs (rtMaps m oc))).isSome = true := by
    rw [mapM_isSome_iff]
    intro e he
    apply rtElem_isSome
    · intro t off hm
      have h2 := hr5 e he
      rw [hm] at h2
      exact hce off (offsetWF_cexprWF off (hs.elemOffsets e he t off hm)) h2
    · intro fs hfs f hf
      have := hr6 e he
      rw [hfs] at this
      simp only [List.all_eq_true, decide_eq_true_eq] at this
      exact hfm f (this f hf)
    · intro ty es hes c hc
      have h2 := hr6 e he
      rw [hes] at h2
      simp only [List.all_eq_true] at h2
      exact hce c (hs.elemItems e he ty es hes c hc) (h2 c hc)
  have hda : (m.datas.mapM (rtData (rtMaps m oc))).isSome = true := by
    rw [mapM_isSome_iff]
    intro d hd
    apply rtData_isSome
    intro mem off hm
    have h2 := hr4 d hd
    rw [hm] at h2
    exact hce off (offsetWF_cexprWF off (hs.dataOffsets d hd mem off hm)) h2
  rw [roundTripModule_eq, if_neg (by simpa using hlen)]
  simp only [hp, hoc]
  exact writeModule_isSome him hgl hex hst hel hda

end Walrus
