import Walrus.Proofs.Offsets
import Walrus.Proofs.Body
import Walrus.Gen.CodeStart

/-!
# C11 — the code-offset map handed to custom sections is exact

Model: `Walrus/Offsets.lean` — the bookkeeping loop of `ModuleFunctions::emit` over functions whose
operators are *arbitrary byte strings* (parametric in the encoder), local declarations opaque, the
code section laid out with real LEB128 — and `Walrus/Body.lean` for the raw location map of the
`Emit` visitor.  For every module prefix, every list of emitted functions, every encoder:
each pair of the instruction map is the location of an emitted operator and the offset at which
that operator's encoding begins in the binary; default (inserted) locations occur in no pair;
each function range delimits exactly that function's code-section entry; the code-section start
is where the section's contents begin, provided what is subtracted is the length of the count
LEB — which is an obligation on the expression regenerated from the source on every run.
-/
namespace Walrus
namespace C11

def moduleBytes (pre : List UInt8) (fs : List EmittedFunc) : List UInt8 := pre ++ codeSectionBytes fs

def header (fs : List EmittedFunc) : List UInt8 :=
  [10] ++ lebBytes (lebBytes fs.length ++ (fs.map EmittedFunc.entry).flatten).length ++ lebBytes fs.length

theorem moduleBytes_split (pre : List UInt8) (fs : List EmittedFunc) :
    moduleBytes pre fs = (pre ++ header fs) ++ (fs.map EmittedFunc.entry).flatten := by
  simp [moduleBytes, header, codeSectionBytes, List.append_assoc]

theorem firstEntry_eq (pre : List UInt8) (fs : List EmittedFunc) :
    pre.length + (codeSectionBytes fs).length - (fs.map EmittedFunc.entry).flatten.length = (pre ++ header fs).length := by
  have := congrArg List.length (moduleBytes_split pre fs)
  simp only [moduleBytes, List.length_append] at this ⊢
  omega

def WellIndexed (fs : List EmittedFunc) : Prop := ∀ f ∈ fs, ∀ p ∈ f.marks, p.2 < f.ops.length

/-- **Every (input location, output offset) pair points at the first byte of the operator that
    carries that location**, and inserted instructions (default location) appear in no pair. -/
theorem map_entries_point_at_their_instruction (pre : List UInt8) (fs : List EmittedFunc) (fix : Nat)
    (hw : WellIndexed fs) :
    ∀ p ∈ (codeTransform pre.length fs fix).instructionMap,
      p.1 ≠ defaultLoc ∧
      ∃ f ∈ fs, ∃ k, ∃ (hk : k < f.ops.length), (p.1, k) ∈ f.marks ∧
        ∃ rest, (moduleBytes pre fs).drop p.2 = f.ops[k] ++ rest := by
  intro p hp
  simp only [codeTransform] at hp
  rw [firstEntry_eq] at hp
  obtain ⟨f, hf, k, hk, hm, hnd, rest, hr⟩ :=
    (offsetLoop_sound (moduleBytes pre fs) fs fs (pre ++ header fs) [] [] (fun f hf => hf)
      ⟨[], by rw [moduleBytes_split]; simp⟩).1 hw (by intro p hp; cases hp) p hp
  exact ⟨hnd, f, hf, k, hk, hm, rest, hr⟩

/-- **Each reported function range delimits exactly that function's entry** (size prefix + body). -/
theorem ranges_delimit_entries (pre : List UInt8) (fs : List EmittedFunc) (fix : Nat) :
    ∀ r ∈ (codeTransform pre.length fs fix).functionRanges,
      ∃ f ∈ fs, f.id = r.1 ∧ r.2.1 ≤ r.2.2 ∧
        ((moduleBytes pre fs).drop r.2.1).take (r.2.2 - r.2.1) = f.entry := by
  intro r hr
  simp only [codeTransform] at hr
  rw [firstEntry_eq] at hr
  exact (offsetLoop_sound (moduleBytes pre fs) fs fs (pre ++ header fs) [] [] (fun f hf => hf)
    ⟨[], by rw [moduleBytes_split]; simp⟩).2 (by intro p hp; cases hp) r (mem_sortRanges hr)

/-- **The reported code-section start is where the section's contents (function count, then the
    entries) begin** — when the length of the count LEB is what is subtracted. -/
theorem code_start_is_content_start (pre : List UInt8) (fs : List EmittedFunc) :
    (moduleBytes pre fs).drop (codeTransform pre.length fs (lebLen fs.length)).codeSectionStart =
      lebBytes fs.length ++ (fs.map EmittedFunc.entry).flatten := by
  simp only [codeTransform]
  rw [firstEntry_eq]
  -- the count LEB is the tail of the header: step back over it from the first entry
  have hsplit : moduleBytes pre fs = (pre ++ ([10] ++ lebBytes (lebBytes fs.length ++
      (fs.map EmittedFunc.entry).flatten).length)) ++ (lebBytes fs.length ++ (fs.map EmittedFunc.entry).flatten) := by
    simp [moduleBytes, codeSectionBytes, List.append_assoc]
  have hl : (pre ++ header fs).length - lebLen fs.length =
      (pre ++ ([10] ++ lebBytes (lebBytes fs.length ++ (fs.map EmittedFunc.entry).flatten).length)).length := by
    rw [header, ← List.append_assoc pre, List.length_append, lebBytes_length, Nat.add_sub_cancel]
  rw [hl, hsplit, List.drop_left]

/-- obligation on the source (regenerated on every run): `code_section_start` is computed by
    subtracting the length of the function-count LEB from the offset of the first entry -/
theorem source_subtracts_count_leb_length :
    Gen.codeSectionStartExprs = ["code_section_start_offset - function_count_leb_len"] := rfl

/-- with a two-byte constant instead, the start is right only when the count LEB has two bytes:
    counterexample with one function (what the unrepaired code did) -/
example : (codeTransform 8 [⟨0, [0], [[11]], [(20, 0)]⟩] 2).codeSectionStart = 9 ∧
          (codeTransform 8 [⟨0, [0], [[11]], [(20, 0)]⟩] (lebLen 1)).codeSectionStart = 10 := by decide +kernel

/-- the raw map of the `Emit` visitor indexes operators that exist: the fact behind the hypothesis
    `WellIndexed` above (that `emitBodyMarks` meets it is not derived here) -/
theorem marksOf_lt (base : Nat) (ops : List (Nat × Op)) : ∀ p ∈ marksOf base ops, base ≤ p.2 ∧ p.2 < base + ops.length := by
  induction ops generalizing base with
  | nil => intro p hp; simp [marksOf] at hp
  | cons x xs ih =>
    obtain ⟨l, o⟩ := x
    intro p hp
    simp only [marksOf, List.mem_cons] at hp
    rcases hp with rfl | hp
    · simp
    · have := ih (base + 1) p hp
      simp only [List.length_cons]; omega

/-- non-vacuity: two functions, byte layout and map computed by evaluation -/
example :
    let fs : List EmittedFunc := [⟨5, [0], [[65, 1], [26], [11]], [(100, 0), (102, 1), (103, 2)]⟩,
                                  ⟨6, [1, 2, 127], [[32, 0], [11]], [(90, 0), (0xffffffff, 1)]⟩]
    (codeTransform 8 fs (lebLen 2)).instructionMap = [(90, 21), (100, 13), (102, 15), (103, 16)] ∧
    (codeTransform 8 fs (lebLen 2)).functionRanges = [(5, 11, 17), (6, 17, 24)] ∧
    (codeTransform 8 fs (lebLen 2)).codeSectionStart = 10 := by decide +kernel

end C11
end Walrus
