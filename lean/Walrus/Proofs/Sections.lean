import Walrus.Sections

/-!
The custom-section slice, through four *views* of a list of input sections (`rawIn`, `prodIn`,
`nameIn`, `dwarfIn`): parsing stores exactly the four views (`sparse_eq`), emitting writes one group
of sections per view, and the views of what was written are the groups' contents again.
-/
namespace Walrus

def rawIn (input : List InC) : List (String × String) :=
  (input.filter (fun c => classify c.name = .raw)).map (fun c => (c.name, c.data))

def rawOut (out : List OutC) : List (String × String) :=
  out.filterMap (fun o => match o with | .raw n d => some (n, d) | _ => none)

def prodIn (input : List InC) : List PField :=
  (input.filter (fun c => classify c.name = .producers)).flatMap (fun c => c.prod)

def dwarfIn (input : List InC) : Bool :=
  input.any (fun c => decide (classify c.name = .debug) && c.nonEmptyDwarf)

def nameStep (acc : Option String) (c : InC) : Option String :=
  if classify c.name = .name then (match c.modname with | some n => some n | none => acc) else acc

def nameIn (acc : Option String) (input : List InC) : Option String := input.foldl nameStep acc

theorem rawIn_append (a b : List InC) : rawIn (a ++ b) = rawIn a ++ rawIn b := by simp [rawIn]
theorem prodIn_append (a b : List InC) : prodIn (a ++ b) = prodIn a ++ prodIn b := by simp [prodIn]
theorem dwarfIn_append (a b : List InC) : dwarfIn (a ++ b) = (dwarfIn a || dwarfIn b) := by simp [dwarfIn]
theorem nameIn_append (acc : Option String) (a b : List InC) : nameIn acc (a ++ b) = nameIn (nameIn acc a) b := by
  simp [nameIn]

theorem nameStep_of_modname_none {c : InC} (h : c.modname = none) (acc : Option String) :
    nameStep acc c = acc := by
  simp [nameStep, h]

theorem classify_raw_not_debug {n : String} (h : classify n = .raw) : isDebugName n = false := by
  unfold classify at h
  by_cases h1 : n = "producers"
  · rw [if_pos h1] at h; cases h
  by_cases h2 : n = "name"
  · rw [if_neg h1, if_pos h2] at h; cases h
  cases hd : isDebugName n with
  | false => rfl
  | true => rw [if_neg h1, if_neg h2, hd, if_pos rfl] at h; cases h

theorem classify_of_mem_rawIn (input : List InC) : ∀ c ∈ rawIn input, classify c.1 = .raw := by
  intro c hc
  simp only [rawIn, List.mem_map, List.mem_filter, decide_eq_true_eq] at hc
  obtain ⟨x, ⟨_, hx⟩, rfl⟩ := hc
  exact hx

theorem filter_not_debug_of_raw {cs : List (String × String)} (h : ∀ c ∈ cs, classify c.1 = .raw) :
    cs.filter (fun c => !isDebugName c.1) = cs :=
  List.filter_eq_self.2 fun c hc => by simp [classify_raw_not_debug (h c hc)]

/-- One custom section adds to exactly one of the four views, the one its name selects. -/
theorem parseCustom_eq (m : SMod) (c : InC) :
    parseCustom m c =
      { m with customs := m.customs ++ rawIn [c], producers := m.producers ++ prodIn [c],
               modname := nameStep m.modname c, hasDwarf := m.hasDwarf || dwarfIn [c] } := by
  cases h : classify c.name <;> simp [parseCustom, rawIn, prodIn, dwarfIn, nameStep, h]
  cases c.modname <;> rfl

theorem foldl_parseCustom (input : List InC) (m : SMod) :
    input.foldl parseCustom m =
      { m with customs := m.customs ++ rawIn input, producers := m.producers ++ prodIn input,
               modname := nameIn m.modname input, hasDwarf := m.hasDwarf || dwarfIn input } := by
  induction input generalizing m with
  | nil => simp [rawIn, prodIn, dwarfIn, nameIn]
  | cons c cs ih =>
    rw [List.foldl_cons, ih, parseCustom_eq]
    simp [← rawIn_append, ← prodIn_append, ← dwarfIn_append, nameIn, Bool.or_assoc]

/-- What `Module::parse` leaves in the module, field by field. -/
theorem sparse_eq (cfg : SCfg) (ver : String) (input : List InC) :
    sparse cfg ver true input = some
      { cfg := cfg, customs := rawIn input,
        producers := producersField (prodIn input) "processed-by" "walrus" ver,
        modname := nameIn none input, hasDwarf := dwarfIn input, onParseCalls := 1 } := by
  simp [sparse, foldl_parseCustom]

/-- Only the last group holds raw sections, and `rawOut` undoes the `OutC.raw` wrapping. -/
theorem rawOut_semit (m : SMod) :
    rawOut (semit m).1 = m.customs.filter (fun c => !isDebugName c.1) := by
  simp [semit, rawOut, List.filterMap_append, apply_ite (List.filterMap _), List.filterMap_map,
    Function.comp_def]

/-- Neither emitting nor the GC pass changes the module, so every emit of a script writes the same. -/
theorem srun_eq (m : SMod) (script : List SOp) : ∀ o ∈ srun m script, o = (semit m).1 := by
  induction script generalizing m with
  | nil => intro o ho; cases ho
  | cons op r ih =>
    intro o ho
    cases op with
    | emit =>
      rcases List.mem_cons.1 ho with ho | ho
      · exact ho
      · exact ih (semit m).2 o ho
    | gc => exact ih (sgc m) o ho

/-- what `OutC.toIn` makes of a raw section; read back, it feeds the raw view and no other -/
def rawToIn (c : String × String) : InC := ⟨c.1, c.2, [], none, false⟩

theorem rawIn_raws (cs : List (String × String)) (h : ∀ c ∈ cs, classify c.1 = .raw) :
    rawIn (cs.map rawToIn) = cs := by
  induction cs with
  | nil => rfl
  | cons c cs ih =>
    have hc : classify c.1 = .raw := h c List.mem_cons_self
    simpa [rawIn, rawToIn, hc] using ih fun x hx => h x (List.mem_cons_of_mem _ hx)

theorem prodIn_raws (cs : List (String × String)) : prodIn (cs.map rawToIn) = [] := by
  simp only [prodIn, List.flatMap_eq_nil_iff, List.mem_filter, List.mem_map]
  rintro _ ⟨⟨c, -, rfl⟩, -⟩
  rfl

theorem nameIn_raws (cs : List (String × String)) (acc : Option String) : nameIn acc (cs.map rawToIn) = acc := by
  induction cs with
  | nil => rfl
  | cons c cs ih => simpa [nameIn, nameStep_of_modname_none, rawToIn] using ih

theorem dwarfIn_raws (cs : List (String × String)) : dwarfIn (cs.map rawToIn) = false := by
  simp [dwarfIn, rawToIn]

theorem replaceOrPush_idem (vs : List (String × String)) (n v : String) :
    replaceOrPush (replaceOrPush vs n v) n v = replaceOrPush vs n v := by
  induction vs with
  | nil => simp [replaceOrPush]
  | cons x xs ih =>
    obtain ⟨a, b⟩ := x
    unfold replaceOrPush
    by_cases h : a = n
    · simp [h, replaceOrPush]
    · simp only [h, if_false]
      rw [replaceOrPush]
      simp [h, ih]

theorem producersField_idem (fs : List PField) (f n v : String) :
    producersField (producersField fs f n v) f n v = producersField fs f n v := by
  induction fs with
  | nil => simp [producersField, replaceOrPush]
  | cons x xs ih =>
    unfold producersField
    by_cases h : x.name = f
    · simp [h, producersField, replaceOrPush_idem]
    · simp only [h, if_false]
      rw [producersField]
      simp [h, ih]

theorem producersField_others (fs : List PField) (f n v : String) :
    (producersField fs f n v).filter (fun x => x.name ≠ f) = fs.filter (fun x => x.name ≠ f) := by
  induction fs with
  | nil => simp [producersField]
  | cons x xs ih =>
    unfold producersField
    by_cases h : x.name = f
    · simp [h]
    · simp only [h, if_false, List.filter_cons, ne_eq, not_false_eq_true, decide_true, if_true, ih]

theorem producersField_ne_nil (fs : List PField) (f n v : String) : producersField fs f n v ≠ [] := by
  cases fs with
  | nil => simp [producersField]
  | cons x xs => unfold producersField; split <;> simp

/-- number of values called `n` inside fields called `f` -/
def countEntry (fs : List PField) (f n : String) : Nat :=
  ((fs.filter (fun x => x.name = f)).flatMap (fun x => x.values.filter (fun p => p.1 = n))).length

def PWF (fs : List PField) : Prop :=
  (fs.map (·.name)).Nodup ∧ ∀ x ∈ fs, (x.values.map (·.1)).Nodup

theorem mem_replaceOrPush {vs : List (String × String)} {n v : String} {p : String × String}
    (h : p ∈ replaceOrPush vs n v) : p = (n, v) ∨ p ∈ vs := by
  induction vs with
  | nil => exact .inl (by simpa [replaceOrPush] using h)
  | cons x xs ih =>
    obtain ⟨a, b⟩ := x
    unfold replaceOrPush at h
    split at h
    · exact (List.mem_cons.1 h).imp id (List.mem_cons_of_mem _)
    · rcases List.mem_cons.1 h with h | h
      · exact .inr (h ▸ List.mem_cons_self)
      · exact (ih h).imp id (List.mem_cons_of_mem _)

theorem count_replaceOrPush (vs : List (String × String)) (n v : String) (h : (vs.map (·.1)).Nodup) :
    ((replaceOrPush vs n v).filter (fun p => p.1 = n)).length = 1 ∧ ((replaceOrPush vs n v).map (·.1)).Nodup := by
  induction vs with
  | nil => simp [replaceOrPush]
  | cons x xs ih =>
    obtain ⟨a, b⟩ := x
    simp only [List.map_cons, List.nodup_cons] at h
    unfold replaceOrPush
    by_cases hn : a = n
    · subst hn
      have : xs.filter (fun p => decide (p.1 = a)) = [] :=
        List.filter_eq_nil_iff.2 fun p hp => by
          simp only [decide_eq_true_eq]
          exact fun e => h.1 (e ▸ List.mem_map_of_mem hp)
      simp [this, h.1, h.2]
    · have ih' := ih h.2
      simp only [hn, if_false, List.filter_cons, decide_false, Bool.false_eq_true, ih'.1, List.map_cons,
        List.nodup_cons, ih'.2, and_true, true_and]
      intro hmem
      obtain ⟨p, hp, rfl⟩ := List.mem_map.1 hmem
      rcases mem_replaceOrPush hp with rfl | hp
      · exact hn rfl
      · exact h.1 (List.mem_map_of_mem hp)

theorem name_mem_producersField {fs : List PField} {f n v : String} {y : PField}
    (h : y ∈ producersField fs f n v) : y.name = f ∨ y.name ∈ fs.map (·.name) := by
  induction fs with
  | nil => exact .inl (by simp [producersField] at h; simp [h])
  | cons x xs ih =>
    unfold producersField at h
    split at h
    · rcases List.mem_cons.1 h with rfl | h
      · exact .inl ‹_›
      · exact .inr (List.mem_cons_of_mem _ (List.mem_map_of_mem h))
    · rcases List.mem_cons.1 h with rfl | h
      · exact .inr List.mem_cons_self
      · exact (ih h).imp id (List.mem_cons_of_mem _)

theorem count_producersField (fs : List PField) (f n v : String) (h : PWF fs) :
    countEntry (producersField fs f n v) f n = 1 ∧ PWF (producersField fs f n v) := by
  induction fs with
  | nil => simp [producersField, countEntry, PWF]
  | cons x xs ih =>
    obtain ⟨h1, h2⟩ := h
    simp only [List.map_cons, List.nodup_cons] at h1
    unfold producersField
    by_cases hx : x.name = f
    · have hnone : xs.filter (fun y => decide (y.name = f)) = [] :=
        List.filter_eq_nil_iff.2 fun y hy => by
          simp only [decide_eq_true_eq]
          exact fun e => h1.1 (hx.trans e.symm ▸ List.mem_map_of_mem hy)
      have hc := count_replaceOrPush x.values n v (h2 x List.mem_cons_self)
      refine ⟨by simp [hx, countEntry, hnone, hc.1], ?_, fun y hy => ?_⟩
      · simp only [hx, if_true, List.map_cons, List.nodup_cons, h1.2, and_true]
        exact hx ▸ h1.1
      · simp only [hx, if_true, List.mem_cons] at hy
        rcases hy with rfl | hy
        · exact hc.2
        · exact h2 y (List.mem_cons_of_mem _ hy)
    · obtain ⟨ihc, ihn, ihv⟩ := ih ⟨h1.2, fun y hy => h2 y (List.mem_cons_of_mem _ hy)⟩
      refine ⟨by simpa [hx, countEntry] using ihc, ?_, fun y hy => ?_⟩
      · simp only [hx, if_false, List.map_cons, List.nodup_cons, ihn, and_true]
        intro hmem
        obtain ⟨y, hy, e⟩ := List.mem_map.1 hmem
        rcases name_mem_producersField hy with hy | hy
        · exact hx (e ▸ hy)
        · exact h1.1 (e ▸ hy)
      · simp only [hx, if_false, List.mem_cons] at hy
        rcases hy with rfl | hy
        · exact h2 _ List.mem_cons_self
        · exact ihv y hy

end Walrus
