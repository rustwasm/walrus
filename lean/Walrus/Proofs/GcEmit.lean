import Walrus.Proofs.GcFuel
import Walrus.Proofs.CodeMaps
import Walrus.Proofs.SectionsEmit

/-!
`gcRoundTrip` read backwards (its pieces under names, `gcRoundTrip_eq` by `rfl`, the inversion
`gcRoundTrip_some`), and: after the GC pass no entity that is still referenced is left without an emitted index (C02): in the
maps the pass emits with (`mapsOf … (gcKeep g m)`: by `gcMaps_eq` the same maps for the code section and
for every other section) every used entity that exists has an index (`used_has_index`), the used set is
closed under the edges the code scans, and every entity a section names on behalf of a kept entity
is one of its successors.  So every section outside the code section emits, for every module whose
references are in range (`gcWF`) and well-shaped (`SectionsWF`).
-/
namespace Walrus

/-- the keep-set and maps `gcRoundTrip` hands to `emitCodeWith` -/
def gcKeep (g : GcInfo) (m : ModuleM) : Keep :=
  ⟨keptOf (usedSet g) "f" (g.nif + m.funcs.length), keptOf (usedSet g) "y" (distinctSigs m.sigs).length,
   { tables := compact (keptOf (usedSet g) "t" (g.nit + m.tables.length)),
     mems := compact (keptOf (usedSet g) "m" (g.nim + m.mems.length)),
     globals := compact (keptOf (usedSet g) "g" (g.nig + m.globals.length)),
     elems := compact (keptOf (usedSet g) "e" m.elems.length),
     datas := compact (keptOf (usedSet g) "d" m.datas.length) }⟩

/-- the type map `gcRoundTrip` builds: kept type ids, sorted by signature, numbered -/
def gcTyMap (g : GcInfo) (m : ModuleM) : List (Nat × Nat) :=
  let dsigs := distinctSigs m.sigs
  let ky := keptOf (usedSet g) "y" dsigs.length
  let idSigs : List (Nat × Sig) := (dsigs.zipIdx.map (fun p => (p.2, p.1))).filter (fun p => ky.contains p.1)
  (sortBy (fun a b => sigLe a.2 b.2) idSigs).zipIdx.map (fun p => (p.1.1, p.2))

/-- the function map `gcRoundTrip` builds from the emitted code -/
def gcFuncMap (g : GcInfo) (m : ModuleM) (oc : OutCode) : List (Nat × Nat) :=
  let kf := keptOf (usedSet g) "f" (g.nif + m.funcs.length)
  let keptImpF := (List.range g.nif).filter kf.contains
  keptImpF.zipIdx.map (fun p => (p.1, p.2)) ++ oc.funcs.zipIdx.map (fun p => (p.1.id, keptImpF.length + p.2))

/-- the maps `gcRoundTrip` uses for everything outside the code section -/
def gcMaps (g : GcInfo) (m : ModuleM) (oc : OutCode) : IdMaps :=
  { (gcKeep g m).other with funcs := gcFuncMap g m oc, types := gcTyMap g m }

/-- the name section `gcRoundTrip` writes for the input's name section `n` (before the check for emptiness) -/
def gcNamesOut (g : GcInfo) (m : ModuleM) (oc : OutCode) (n : NamesM) : NamesM :=
  { module := n.module, funcs := filterNames n.funcs (gcFuncMap g m oc),
    locals := localNamesOut g.nif g.pfs oc.funcs (gcFuncMap g m oc) n.locals,
    types := typeNamesOut g.tids (gcTyMap g m) n.types,
    tables := filterNames n.tables (gcMaps g m oc).tables, mems := filterNames n.mems (gcMaps g m oc).mems,
    globals := filterNames n.globals (gcMaps g m oc).globals, elems := filterNames n.elems (gcMaps g m oc).elems,
    datas := filterNames n.datas (gcMaps g m oc).datas }

/-- what `gcRoundTrip` hands to `writeModule` once the code is emitted: the sweep of the sections that need
    no lookup, the data count and the names of what is kept, and the six sections that look indices up -/
abbrev gcParts (m : ModuleM) (g : GcInfo) (oc : OutCode) : OutParts :=
  { code := oc,
    tables := (m.tables.zipIdx.filter fun p => (keptOf (usedSet g) "t" (g.nit + m.tables.length)).contains (g.nit + p.2)).map (·.1),
    mems := (m.mems.zipIdx.filter fun p => (keptOf (usedSet g) "m" (g.nim + m.mems.length)).contains (g.nim + p.2)).map (·.1),
    dataCount := rtDataCount
      ((m.datas.zipIdx.filter fun p => (keptOf (usedSet g) "d" m.datas.length).contains p.2).map (·.1))
      (g.pfs.filter fun f => (keptOf (usedSet g) "f" (g.nif + m.funcs.length)).contains f.id),
    names := dropEmptyNames (m.names.map (gcNamesOut g m oc)),
    imports := gcImportsOut m (keptOf (usedSet g) "f" (g.nif + m.funcs.length))
      (keptOf (usedSet g) "t" (g.nit + m.tables.length)) (keptOf (usedSet g) "m" (g.nim + m.mems.length))
      (keptOf (usedSet g) "g" (g.nig + m.globals.length)) (fun t => (g.tids[t]?).bind (assoc (gcTyMap g m))),
    globals := gcGlobalsOut m g.nig (keptOf (usedSet g) "g" (g.nig + m.globals.length)) (gcMaps g m oc),
    exports := gcExportsOut m (gcMaps g m oc), start := gcStartOut m (gcFuncMap g m oc),
    elems := gcElemsOut m (keptOf (usedSet g) "e" m.elems.length) (gcFuncMap g m oc) (gcMaps g m oc),
    datas := gcDatasOut m (keptOf (usedSet g) "d" m.datas.length) (gcMaps g m oc) }

theorem gcRoundTrip_eq (m : ModuleM) : gcRoundTrip m =
    if m.code.length ≠ m.funcs.length then none else
    match mkGcInfo m with
    | none => none
    | some g =>
      match emitCodeWith ⟨m.sigs, g.nif, m.code.zip m.funcs |>.map fun p => ⟨p.2, p.1.1, p.1.2⟩⟩ g.pfs (gcKeep g m) with
      | none => none
      | some oc => writeModule (gcParts m g oc) := by
  rfl  -- as a tactic: the term `rfl` has the unfolding checked three times (twice while elaborating, once for `@[defeq]`)

theorem mkGcInfo_spec (m : ModuleM) (g : GcInfo) (h : mkGcInfo m = some g) :
    parseCode (codeOf m) = some g.pfs ∧ g.m = m ∧ g.nif = importedCount m "f" ∧ g.tids = dedupIds m.sigs := by
  unfold mkGcInfo at h
  simp only [Option.map_eq_some_iff] at h
  obtain ⟨pfs, hp, rfl⟩ := h
  exact ⟨hp, rfl, rfl, rfl⟩

theorem pfs_length (m : ModuleM) (g : GcInfo) (hg : mkGcInfo m = some g) (hlen : m.code.length = m.funcs.length) :
    g.pfs.length = m.funcs.length := by
  rw [(parseCode_spec (codeOf m) g.pfs (mkGcInfo_spec m g hg).1).1, codeOf_funcs_length m hlen]

theorem codeOf_eq (m : ModuleM) (g : GcInfo) (hg : mkGcInfo m = some g) :
    (⟨m.sigs, g.nif, m.code.zip m.funcs |>.map fun p => ⟨p.2, p.1.1, p.1.2⟩⟩ : InCode) = codeOf m := by
  rw [(mkGcInfo_spec m g hg).2.2.1]; rfl

theorem gcFuncMap_eq (m : ModuleM) (g : GcInfo) (hg : mkGcInfo m = some g) (ky : List Nat) (other : IdMaps)
    (oc : OutCode)
    (hoc : emitCodeWith (codeOf m) g.pfs ⟨keptOf (usedSet g) "f" (g.nif + m.funcs.length), ky, other⟩ = some oc) :
    gcFuncMap g m oc = funcMapOf (codeOf m) g.pfs ⟨keptOf (usedSet g) "f" (g.nif + m.funcs.length), ky, other⟩ := by
  have hnif : (codeOf m).importedFuncs = g.nif := (mkGcInfo_spec m g hg).2.2.1.symm
  rw [← emitCodeWith_funcMap _ _ _ oc hoc, hnif]
  rfl

theorem gcMaps_eq (m : ModuleM) (g : GcInfo) (hg : mkGcInfo m = some g) (oc : OutCode)
    (hoc : emitCodeWith (codeOf m) g.pfs (gcKeep g m) = some oc) :
    gcMaps g m oc = mapsOf (codeOf m) g.pfs (gcKeep g m) [] := by
  rw [gcMaps, gcFuncMap_eq m g hg _ _ oc hoc]
  rfl

theorem mem_entUniverse (g : GcInfo) (sp : String) (i : Nat) :
    (sp, i) ∈ entUniverse g ↔
    (sp = "f" ∧ i < g.nif + g.pfs.length) ∨ (sp = "t" ∧ i < g.nit + g.m.tables.length) ∨
    (sp = "m" ∧ i < g.nim + g.m.mems.length) ∨ (sp = "g" ∧ i < g.nig + g.m.globals.length) ∨
    (sp = "e" ∧ i < g.m.elems.length) ∨ (sp = "d" ∧ i < g.m.datas.length) ∨
    (sp = "y" ∧ i < (distinctSigs g.m.sigs).length + g.pfs.length) := by
  have h : ∀ (t : String) (n : Nat), (sp, i) ∈ (List.range n).map ((t, ·)) ↔ sp = t ∧ i < n := fun t n => by
    simp only [List.mem_map, List.mem_range, Prod.mk.injEq]
    exact ⟨fun ⟨a, ha, e1, e2⟩ => ⟨e1.symm, e2 ▸ ha⟩, fun ⟨e1, ha⟩ => ⟨i, ha, e1.symm, rfl⟩⟩
  simp only [entUniverse, List.mem_append, h, or_assoc]

/-- `hy` leaves out the function-entry types, which are internal and never written -/
theorem used_has_index (m : ModuleM) (g : GcInfo) (hg : mkGcInfo m = some g) (hlen : m.code.length = m.funcs.length)
    (sp : String) (i : Nat) (hu : (sp, i) ∈ usedSet g) (hr : (sp, i) ∈ entUniverse g)
    (hy : sp = "y" → i < (distinctSigs m.sigs).length) (lmap : List (Nat × Nat)) :
    ((mapsOf (codeOf m) g.pfs (gcKeep g m) lmap).get sp i).isSome = true := by
  obtain ⟨hp, rfl, hnif, _⟩ := mkGcInfo_spec m g hg
  have hk : ∀ n, i < n → (keptOf (usedSet g) sp n).contains i = true := fun n hi => by
    simpa using mem_keptOf.2 ⟨hi, hu⟩
  by_cases hty : sp = "y"
  · -- types: the map built from the kept type ids; the bound is `hy`
    subst hty
    have := (tyMapOf_isSome_iff (codeOf g.m) (gcKeep g g.m) i).2 ⟨hk _ (hy rfl), hy rfl⟩
    simpa [mapsOf, IdMaps.get, gcKeep] using this
  rcases (mem_entUniverse g sp i).1 hr with ⟨rfl, hi⟩ | hr
  · -- functions: the map built from the kept ids
    have hl := pfs_length g.m g hg hlen
    have := funcMapOf_isSome (codeOf g.m) g.pfs hp (gcKeep g g.m) i
      (by rw [codeOf_funcs_length g.m hlen, ← hl]; rw [hnif] at hi; exact hi) (hk _ (hl ▸ hi))
    simpa [mapsOf, IdMaps.get, gcKeep] using this
  -- tables, memories, globals, element and data segments: `get` reads the compaction map of the space,
  -- which answers on what is kept
  simp only [hty, false_and, or_false] at hr
  obtain ⟨rfl, hi⟩ | ⟨rfl, hi⟩ | ⟨rfl, hi⟩ | ⟨rfl, hi⟩ | ⟨rfl, hi⟩ := hr <;>
    simpa [mapsOf, IdMaps.get, gcKeep] using assoc_compact_isSome.2 (mem_keptOf.2 ⟨hi, hu⟩)

/-- no entity that is still referenced is left without an emitted index: what a used entity refers to,
    along the edges the pass scans, is used, exists, and so has an index -/
theorem referent_has_index (m : ModuleM) (g : GcInfo) (hg : mkGcInfo m = some g) (hlen : m.code.length = m.funcs.length)
    (hw : gcWF g = true) (x y : Ent) (hx : x ∈ usedSet g) (hxu : x ∈ entUniverse g) (hy : y ∈ gcSucc g x)
    (hty : y.1 = "y" → y.2 < (distinctSigs m.sigs).length) (lmap : List (Nat × Nat)) :
    ((mapsOf (codeOf m) g.pfs (gcKeep g m) lmap).get y.1 y.2).isSome = true :=
  used_has_index m g hg hlen y.1 y.2 (usedSet_succ g (gcWF_finishes g hw) x y hx hy)
    (((gcWF_iff g).1 hw).2 x hxu y hy) hty lmap

theorem root_has_index (m : ModuleM) (g : GcInfo) (hg : mkGcInfo m = some g) (hlen : m.code.length = m.funcs.length)
    (hw : gcWF g = true) (x : Ent) (hx : x ∈ gcRoots g) (hty : x.1 ≠ "y") :
    ((mapsOf (codeOf m) g.pfs (gcKeep g m) []).get x.1 x.2).isSome = true :=
  used_has_index m g hg hlen x.1 x.2 (usedSet_roots g (gcWF_finishes g hw) x hx) (((gcWF_iff g).1 hw).1 x hx)
    (fun h => absurd h hty) []

theorem mem_refsOfCExpr (c : CExprM) (y : Ent) :
    y ∈ refsOfCExpr c ↔ (y.1 = "g" ∨ y.1 = "f") ∧ ∃ op ∈ c, Arg.ref y.1 y.2 ∈ op.args := by
  simp only [refsOfCExpr, List.mem_flatMap, List.mem_filterMap]
  constructor
  · rintro ⟨op, hop, a, ha, hs⟩
    cases a with
    | ref sp n =>
      simp only [Option.ite_none_right_eq_some, Option.some.injEq, Bool.or_eq_true, decide_eq_true_eq] at hs
      obtain ⟨h, rfl⟩ := hs
      exact ⟨h, op, hop, ha⟩
    | _ => simp at hs
  · rintro ⟨h, op, hop, ha⟩
    exact ⟨op, hop, _, ha, by simp [h]⟩

theorem cexpr_emits (maps : IdMaps) (c : CExprM) (hc : cexprWF c)
    (h : ∀ y ∈ refsOfCExpr c, (maps.get y.1 y.2).isSome = true) : (mapCExpr maps c).isSome = true := by
  rw [mapCExpr_isSome_iff]
  exact fun op hop sp id href => h (sp, id) ((mem_refsOfCExpr c _).2 ⟨hc op hop sp id href, op, hop, href⟩)

def funcImportTypes (imports : List (String × String × ImportDescM)) : List Nat :=
  imports.filterMap fun i => match i.2.2 with | .func t => some t | _ => none

def funcImportPositions (imports : List (String × String × ImportDescM)) (start : Nat) : List Nat :=
  (imports.zipIdx start).filterMap fun p => match p.1.2.2 with | .func _ => some p.2 | _ => none

theorem importPositions_f (m : ModuleM) : importPositions m "f" = funcImportPositions m.imports 0 := by
  unfold importPositions funcImportPositions
  congr 1
  funext p
  cases p.1.2.2 <;> rfl

theorem funcImportPositions_ge (l : List (String × String × ImportDescM)) : ∀ (start x : Nat),
    x ∈ funcImportPositions l start → start ≤ x := by
  induction l with
  | nil => intro start x h; simp [funcImportPositions] at h
  | cons i r ih =>
    intro start x h
    obtain ⟨_, _, d⟩ := i
    simp only [funcImportPositions, List.zipIdx_cons, List.filterMap_cons] at h
    cases d with
    | func _ =>  -- a function import: it stands at `start`, the others later
      rcases List.mem_cons.1 h with rfl | h
      · exact Nat.le_refl _
      · exact Nat.le_of_succ_le (ih (start + 1) x h)
    | _ => exact Nat.le_of_succ_le (ih (start + 1) x h)  -- any other import is skipped

/-- the `j`-th function import, counted by position, has the `j`-th function-import type -/
theorem funcImport_type (l : List (String × String × ImportDescM)) : ∀ (start : Nat) (p : (String × String × ImportDescM) × Nat) (t : Nat),
    p ∈ l.zipIdx start → p.1.2.2 = .func t →
    (funcImportTypes l)[(funcImportPositions l start).idxOf p.2]? = some t := by
  induction l with
  | nil => intro start p t h; simp at h
  | cons i r ih =>
    intro start p t hp hf
    simp only [List.zipIdx_cons, List.mem_cons] at hp
    rcases hp with rfl | hp
    · simp only at hf
      simp [funcImportTypes, funcImportPositions, hf]
    · have ih' := ih (start + 1) p t hp hf
      have hne : (start == p.2) = false := by
        have := List.mem_zipIdx hp
        simpa using (by omega : start ≠ p.2)
      simp only [funcImportTypes, funcImportPositions, List.zipIdx_cons, List.filterMap_cons] at ih' ⊢
      cases i.2.2 with
      | func _ => simp [List.idxOf_cons, hne, ih']  -- a function import: both lists gain a head
      | _ => exact ih'                              -- any other import: neither list changes

theorem importedCount_f (m : ModuleM) : importedCount m "f" = (funcImportTypes m.imports).length := by
  rw [funcImportTypes, List.length_filterMap_eq_countP, importedCount, ← List.countP_eq_length_filter]
  apply List.countP_congr
  intro i _
  cases i.2.2 <;> rfl

theorem gcSucc_import (g : GcInfo) (j t : Nat) (hj : j < g.nif) (ht : (funcImportTypes g.m.imports)[j]? = some t) :
    gcSucc g ("f", j) = (g.tids[t]?).toList.map (("y", ·)) := by
  simp only [gcSucc, hj, if_true]
  split
  · rename_i t' h
    cases ht.symm.trans h
    rfl
  · rename_i h
    cases ht.symm.trans h

section
variable (m : ModuleM) (g : GcInfo) (hg : mkGcInfo m = some g) (hlen : m.code.length = m.funcs.length)
  (hw : gcWF g = true)
include hg hlen hw

theorem gc_cexpr_emit (x : Ent) (hx : x ∈ usedSet g) (hxu : x ∈ entUniverse g) (c : CExprM) (hc : cexprWF c)
    (hsub : ∀ y ∈ refsOfCExpr c, y ∈ gcSucc g x) :
    (mapCExpr (mapsOf (codeOf m) g.pfs (gcKeep g m) []) c).isSome = true :=
  cexpr_emits _ c hc fun y hy => referent_has_index m g hg hlen hw x y hx hxu (hsub y hy)
    (fun h => by rcases ((mem_refsOfCExpr c y).1 hy).1 with e | e <;> simp [e] at h) []

theorem gc_offset_emit (x : Ent) (hx : x ∈ usedSet g) (hxu : x ∈ entUniverse g) (c : CExprM) (hc : offsetWF c)
    (hsub : ∀ y ∈ (refsOfCExpr c).filter (·.1 = "g"), y ∈ gcSucc g x) :
    (mapCExpr (mapsOf (codeOf m) g.pfs (gcKeep g m) []) c).isSome = true :=
  gc_cexpr_emit m g hg hlen hw x hx hxu c (offsetWF_cexprWF c hc) fun y hy => by
    obtain ⟨_, op, hop, hr⟩ := (mem_refsOfCExpr c y).1 hy
    exact hsub y (List.mem_filter.2 ⟨hy, by simpa using hc op hop _ _ hr⟩)

/-- exports name roots -/
theorem gc_exports_emit (hk : ∀ e ∈ m.exports, e.2.1 ≠ "y") :
    (gcExportsOut m (mapsOf (codeOf m) g.pfs (gcKeep g m) [])).isSome = true := by
  rw [gcExportsOut, mapM_isSome_iff]
  intro e he
  rw [Option.isSome_map]
  exact root_has_index m g hg hlen hw (e.2.1, e.2.2)
    (export_mem_gcRoots g e (by rw [(mkGcInfo_spec m g hg).2.1]; exact he)) (hk e he)

/-- the start function is a root -/
theorem gc_start_emit : (gcStartOut m (funcMapOf (codeOf m) g.pfs (gcKeep g m))).isSome = true := by
  unfold gcStartOut
  cases hs : m.start with
  | none => rfl
  | some s =>
    have := root_has_index m g hg hlen hw ("f", s)
      (start_mem_gcRoots g s (by rw [(mkGcInfo_spec m g hg).2.1]; exact hs)) (by simp)
    simpa [mapsOf, IdMaps.get, gcKeep] using this

/-- the initialiser of a kept global names successors of the global -/
theorem gc_globals_emit (hc : ∀ gl ∈ m.globals, cexprWF gl.2) :
    (gcGlobalsOut m g.nig (keptOf (usedSet g) "g" (g.nig + m.globals.length))
      (mapsOf (codeOf m) g.pfs (gcKeep g m) [])).isSome = true := by
  obtain ⟨_, rfl, _⟩ := mkGcInfo_spec m g hg
  unfold gcGlobalsOut
  apply mapM_kept_isSome
  intro k gl hk hP
  rw [Option.isSome_map]
  have hku := mem_keptOf.1 (by simpa using hP)
  apply gc_cexpr_emit g.m g hg hlen hw ("g", g.nig + k) hku.2 _ gl.2 (hc gl (List.mem_of_getElem? hk))
  · rw [gcSucc_global g k gl hk]
    exact fun y hy => hy
  · rw [mem_entUniverse]
    simp [hku.1]

/-- a kept active data segment names its memory and, in its offset, globals: all successors -/
theorem gc_datas_emit (hc : ∀ d ∈ m.datas, ∀ mem off, d.mode = .active mem off → offsetWF off) :
    (gcDatasOut m (keptOf (usedSet g) "d" m.datas.length) (mapsOf (codeOf m) g.pfs (gcKeep g m) [])).isSome = true := by
  obtain ⟨_, rfl, _⟩ := mkGcInfo_spec m g hg
  unfold gcDatasOut
  apply mapM_kept_isSome
  intro k d hk hP
  have hku := mem_keptOf.1 (by simpa using hP)
  have hxu : ("d", k) ∈ entUniverse g := by rw [mem_entUniverse]; simp [hku.1]
  cases hmode : d.mode with
  | passive => simp [rtData, hmode]
  | active mem off =>
    have hsucc := gcSucc_data g k d mem off hk hmode
    have hmem := referent_has_index g.m g hg hlen hw ("d", k) ("m", mem) hku.2 hxu
      (by rw [hsucc]; exact List.mem_cons_self) (by simp) []
    obtain ⟨mm, hmm⟩ := Option.isSome_iff_exists.1
      (by simpa [mapsOf, IdMaps.get, gcKeep] using hmem :
        (assoc (mapsOf (codeOf g.m) g.pfs (gcKeep g g.m) []).mems mem).isSome = true)
    simp only [hmm, Option.map_some, Option.bind_some]
    apply rtData_isSome
    intro mem' off' e
    cases e
    exact gc_offset_emit g.m g hg hlen hw ("d", k) hku.2 hxu off (hc d (List.mem_of_getElem? hk) mem off hmode)
      (by rw [hsucc]; exact fun y hy => List.mem_cons_of_mem _ hy)

/-- a kept element segment names its items, its table and, in its offset, globals: all successors -/
theorem gc_elems_emit (hoff : ∀ e ∈ m.elems, ∀ t off, e.mode = .active t off → offsetWF off)
    (hitems : ∀ e ∈ m.elems, ∀ ty es, e.items = .exprs ty es → ∀ c ∈ es, cexprWF c) :
    (gcElemsOut m (keptOf (usedSet g) "e" m.elems.length) (funcMapOf (codeOf m) g.pfs (gcKeep g m))
      (mapsOf (codeOf m) g.pfs (gcKeep g m) [])).isSome = true := by
  obtain ⟨_, rfl, _⟩ := mkGcInfo_spec m g hg
  unfold gcElemsOut
  apply mapM_kept_isSome
  intro k e hk hP
  have hku := mem_keptOf.1 (by simpa using hP)
  have hxu : ("e", k) ∈ entUniverse g := by rw [mem_entUniverse]; simp [hku.1]
  have hein : e ∈ g.m.elems := List.mem_of_getElem? hk
  have hsucc := gcSucc_elem g k e hk
  have hfs : ∀ fs, e.items = .funcs fs → ∀ f ∈ fs,
      (assoc (funcMapOf (codeOf g.m) g.pfs (gcKeep g g.m)) f).isSome = true := by
    intro fs hi f hf
    have := referent_has_index g.m g hg hlen hw ("e", k) ("f", f) hku.2 hxu
      (by rw [hsucc, hi]; exact List.mem_append_left _ (List.mem_map.2 ⟨f, hf, rfl⟩)) (by simp) []
    simpa [mapsOf, IdMaps.get, gcKeep] using this
  have hes : ∀ ty es, e.items = .exprs ty es → ∀ c ∈ es,
      (mapCExpr (mapsOf (codeOf g.m) g.pfs (gcKeep g g.m) []) c).isSome = true := by
    intro ty es hi c hc
    apply gc_cexpr_emit g.m g hg hlen hw ("e", k) hku.2 hxu c (hitems e hein ty es hi c hc)
    intro y hy
    rw [hsucc, hi]
    exact List.mem_append_left _ (List.mem_flatMap.2 ⟨c, hc, hy⟩)
  cases hmode : e.mode with
  | passive | declared => exact rtElem_isSome _ _ e (by intro t off h; rw [hmode] at h; cases h) hfs hes
  | active t off =>
    have htab := referent_has_index g.m g hg hlen hw ("e", k) ("t", t.getD 0) hku.2 hxu
      (by rw [hsucc, hmode]; simp) (by simp) []
    obtain ⟨t', ht'⟩ := Option.isSome_iff_exists.1
      (by simpa [mapsOf, IdMaps.get, gcKeep] using htab :
        (assoc (mapsOf (codeOf g.m) g.pfs (gcKeep g g.m) []).tables (t.getD 0)).isSome = true)
    simp only [ht', Option.map_some, Option.bind_some]
    refine rtElem_isSome _ _ _ ?_ hfs hes
    intro t2 off2 h
    cases h
    exact gc_offset_emit g.m g hg hlen hw ("e", k) hku.2 hxu off (hoff e hein t off hmode)
      (by rw [hsucc, hmode]; exact fun y hy => List.mem_append_right _ (List.mem_append_left _ hy))

/-- a kept function import names its type, a successor -/
theorem gc_imports_emit {kt km kg : List Nat}
    (hty : ∀ i ∈ m.imports, ∀ t, i.2.2 = .func t → t < m.sigs.length) :
    (gcImportsOut m (keptOf (usedSet g) "f" (g.nif + m.funcs.length)) kt km kg
      (fun t => (g.tids[t]?).bind (assoc (tyMapOf (codeOf m) (gcKeep g m))))).isSome = true := by
  obtain ⟨_, rfl, hnif, htids⟩ := mkGcInfo_spec m g hg
  simp only [gcImportsOut]
  rw [mapM_isSome_iff]
  intro x hx
  simp only [List.mem_filterMap] at hx
  obtain ⟨p, hp, hpx⟩ := hx
  simp only [id]
  cases hi : p.1.2.2 with
  | func t =>
    simp only [hi, Option.ite_none_right_eq_some, Option.some.injEq] at hpx
    obtain ⟨hkept, rfl⟩ := hpx
    rw [Option.isSome_map]
    -- the import is the j-th function import and its type is t
    have htype := funcImport_type g.m.imports 0 p t hp hi
    rw [← importPositions_f] at htype
    have hj := mem_keptOf.1 (by simpa using hkept :
      (importPositions g.m "f").idxOf p.2 ∈ keptOf (usedSet g) "f" (g.nif + g.m.funcs.length))
    have hjlt : (importPositions g.m "f").idxOf p.2 < g.nif := by
      rw [hnif, importedCount_f]
      exact (List.getElem?_eq_some_iff.1 htype).1
    have htlt : t < g.m.sigs.length := hty p.1 ((List.mem_zipIdx hp).2.2 ▸ List.getElem_mem _) t hi
    obtain ⟨tid, htid, htidlt⟩ := dedupIds_get g.m.sigs t htlt
    have := referent_has_index g.m g hg hlen hw ("f", (importPositions g.m "f").idxOf p.2) ("y", tid) hj.2
      (by rw [mem_entUniverse]; exact Or.inl ⟨rfl, Nat.lt_add_right _ hjlt⟩)
      (by rw [gcSucc_import g _ t hjlt htype, htids, htid]; simp)
      (fun _ => htidlt) []
    rw [htids, htid]
    simpa [mapsOf, IdMaps.get, gcKeep] using this
  | table _ | mem _ | global _ =>
    -- any other import that is kept is written as it stands
    simp only [hi, Option.ite_none_right_eq_some, Option.some.injEq] at hpx
    obtain ⟨-, rfl⟩ := hpx
    rfl

end

theorem gc_sections_emit (m : ModuleM) (g : GcInfo) (hg : mkGcInfo m = some g)
    (hlen : m.code.length = m.funcs.length) (hw : gcWF g = true) (hs : SectionsWF m) (oc : OutCode)
    (hoc : emitCodeWith (codeOf m) g.pfs (gcKeep g m) = some oc) : (gcRoundTrip m).isSome = true := by
  have hF : gcFuncMap g m oc = funcMapOf (codeOf m) g.pfs (gcKeep g m) := gcFuncMap_eq m g hg _ _ oc hoc
  have hM := gcMaps_eq m g hg oc hoc
  rw [gcRoundTrip_eq, if_neg (by simpa using hlen), hg]
  simp only [codeOf_eq m g hg, hoc, gcParts, hM, hF]
  exact writeModule_isSome
    (gc_imports_emit m g hg hlen hw hs.importTypes) (gc_globals_emit m g hg hlen hw hs.globalInits)
    (gc_exports_emit m g hg hlen hw hs.exportKinds) (gc_start_emit m g hg hlen hw)
    (gc_elems_emit m g hg hlen hw hs.elemOffsets hs.elemItems) (gc_datas_emit m g hg hlen hw hs.dataOffsets)

theorem gcRoundTrip_some (m o : ModuleM) (h : gcRoundTrip m = some o) :
    ∃ g oc, mkGcInfo m = some g ∧ m.code.length = m.funcs.length ∧
      emitCodeWith (codeOf m) g.pfs (gcKeep g m) = some oc ∧ Written (gcParts m g oc) o := by
  rw [gcRoundTrip_eq] at h
  split at h
  · cases h
  · rename_i hlen
    split at h
    · cases h
    · rename_i g hg
      split at h
      · cases h
      · rename_i oc hoc
        exact ⟨g, oc, hg, by simpa using hlen, codeOf_eq m g hg ▸ hoc, writeModule_some h⟩

end Walrus
