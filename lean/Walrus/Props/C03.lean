import Walrus.Proofs.RoundTripBody
import Walrus.Proofs.ParseConverse
import Walrus.Code

/-!
# C03 — every instruction survives the round trip with exact opcode and immediates

Emission side and parse side proved on the model: emit ∘ parse of any well-nested body is the flattening
of the tree computed from the source (the model is tied to the code by exact prediction).  The
round-trip conclusions speak of `emitBodyFuel` at every fuel from some `n` on: the traversal is a fuelled
loop, `n` is `costL t + 1` for the tree `t` of the body (`emitBody_eq_flatten_steps`), and the fuel the
model itself hands over (`emitBodyMarks` uses `arenaFuel`) is at least that for every parsed body
(`parsed_fuel_suffices`, Proofs/EmitTotal).
-/
namespace Walrus
namespace C03

/-- the emitted body of any parsed function is the structural flattening of its tree view:
    block structure, block types, branch depths and every leaf operator (name and immediates
    unchanged, entity operands through the id→index maps) -/
theorem emitted_body_is_flatten (m : IdMaps) (seqs : List PSeq) (entry : Nat) (ty : LSeqTy)
    (t : TL LSeqTy LInstr) (he : (PSeqs.toArena seqs).get? entry = some (ty, t.toList))
    (hv : ViewL (PSeqs.toArena seqs) t) (ops : List (Nat × Op)) (hf : flattenL m [entry] t = some ops) :
    ∃ n, ∀ fuel, n ≤ fuel → (emitBodyFuel m (PSeqs.toArena seqs) fuel entry).map (·.1) =
      some (ops.map (·.2) ++ [⟨"End", []⟩]) :=
  emitBody_ops_eq_flatten m _ entry ty t he hv ops hf

/-- a leaf operator is emitted under its own name, its operand list taken through `mapArgs`, which leaves
    the `Arg.imm` immediates where they are (next theorem) -/
theorem leaf_name_and_immediates_kept (m : IdMaps) (ctx : List Nat) (op o : Op)
    (h : emitPlain m ctx (.leaf op) = some o) :
    ∃ args, o = ⟨op.name, args⟩ ∧ mapArgs m op.args = some args := by
  simp only [emitPlain, Option.map_eq_some_iff] at h
  obtain ⟨a, ha, rfl⟩ := h
  exact ⟨a, rfl, ha⟩

theorem mapArgs_keeps_immediates (m : IdMaps) : ∀ (args out : List Arg), mapArgs m args = some out →
    args.length = out.length ∧ ∀ (k : Nat) (s : String), args[k]? = some (Arg.imm s) → out[k]? = some (Arg.imm s) := by
  intro args out h
  rw [mapArgs_eq_mapM] at h
  refine ⟨(mapM_some_length h).symm, fun k s hk => ?_⟩
  obtain ⟨y, hy, hf⟩ := mapM_some_get h k _ hk
  rw [hy, ← hf]; rfl

/-- the only rewrite the parse applies to immediates: a memarg offset is reduced modulo 2^32
    (open finding D5); for offsets below 2^32 — all offsets of 32-bit memories — it is the identity -/
def OffsetsBelow2_32 : List Arg → Prop
  | .num _ :: .num o :: .ref "m" _ :: r => o < 4294967296 ∧ OffsetsBelow2_32 r
  | _ :: r => OffsetsBelow2_32 r
  | [] => True

theorem wrapOffsets_id (args : List Arg) (h : OffsetsBelow2_32 args) : wrapOffsets args = args := by
  fun_induction wrapOffsets args with
  | case1 a o k r ih =>
    simp only [OffsetsBelow2_32] at h
    rw [ih h.2, Nat.mod_eq_of_lt h.1]
  | case2 x r hne ih =>
    rw [OffsetsBelow2_32.eq_2 _ _ hne] at h
    rw [ih h]
  | case3 => rfl

/-- witness of the open finding in the model: offset 2^32+4 on a memory operand comes out as 4 -/
example : wrapOffsets [.num 2, .num 4294967300, .ref "m" 1] = [.num 2, .num 4, .ref "m" 1] := by decide +kernel

/-- worked instance of the whole code round trip: nop and dead code dropped, the `if` completed
    with an empty `else`, the larger function emitted first and the call retargeted accordingly -/
example : (roundTripCode ⟨[([], []), (["i32"], ["i32"])], 0,
    [⟨0, [], [(⟨"Call", [.ref "f" 1]⟩, 1), (⟨"End", []⟩, 2)]⟩,
     ⟨1, [(1, "i64")], [(⟨"LocalGet", [.ref "x" 0]⟩, 5), (⟨"Block", [.bt .empty]⟩, 6), (⟨"Nop", []⟩, 7), (⟨"Br", [.ref "l" 0]⟩, 8),
                        (⟨"I32Const", [.num 3]⟩, 9), (⟨"End", []⟩, 10), (⟨"I32Const", [.num 1]⟩, 11), (⟨"If", [.bt .empty]⟩, 12),
                        (⟨"End", []⟩, 13), (⟨"Drop", []⟩, 14), (⟨"End", []⟩, 15)]⟩]⟩).map (fun o => (o.order, o.funcs.map (·.ops)))
  = some ([1, 0], [[⟨"LocalGet", [.ref "x" 0]⟩, ⟨"Block", [.bt .empty]⟩, ⟨"Br", [.ref "l" 0]⟩, ⟨"End", []⟩, ⟨"I32Const", [.num 1]⟩,
                    ⟨"If", [.bt .empty]⟩, ⟨"Else", []⟩, ⟨"End", []⟩, ⟨"Drop", []⟩, ⟨"End", []⟩],
                   [⟨"Call", [.ref "f" 0]⟩, ⟨"End", []⟩]]) := by decide +kernel


/-- **the parse-time control stack computes the recursive description**: for every well-nested body
    (any nesting of block / loop / if / if-else, dead code, nops, branches), running
    `append_instruction` over the flat operator stream yields exactly the arena that `expL` computes
    from the source tree — the entry sequence with the surviving instructions, then every sequence
    in allocation order with its final content and end location -/
theorem parse_computes_the_recursive_description (e : PEnv) (entryTy : Nat) (body : PL) (hw : body.WF)
    (endLoc : Nat) (is : List (BInstr × Nat)) (cs : List PSeq) (u : Bool)
    (h : expL e [0] 1 false body = some (is, cs, u)) :
    buildBody e entryTy (body.flat ++ [(opEnd, endLoc)]) = some (⟨.multi entryTy, is, endLoc⟩ :: cs) :=
  buildBody_eq e entryTy body hw endLoc is cs u h

/-- in that description: nothing is appended to a frame that is unreachable (dead code is dropped) … -/
theorem dead_code_is_dropped (e : PEnv) (ids : List Nat) (o : Op) (loc : Nat) (is : List (BInstr × Nat)) (u : Bool)
    (h : leafEffect e ids true o loc = some (is, u)) : is = [] :=
  (leaf_unreachable h).1

/-- … a `nop` appends nothing and changes nothing … -/
theorem nop_is_dropped (e : PEnv) (ids : List Nat) (unr : Bool) (o : Op) (loc : Nat) (hn : o.name = "Nop") :
    leafEffect e ids unr o loc = some ([], unr) := by
  simp [leafEffect, hn]

/-- … `return` and `unreachable` make the rest of the sequence unreachable … -/
theorem transfer_ends_the_sequence (e : PEnv) (ids : List Nat) (unr : Bool) (o : Op) (loc : Nat)
    (hn : o.name = "Return" ∨ o.name = "Unreachable") :
    leafEffect e ids unr o loc = some (if unr then [] else [(.leaf o, loc)], true) := by
  rcases hn with h | h <;> simp [leafEffect, h]

/-- … and every other operator of a reachable frame is kept, once, with its own name and its
    immediates, entity operands replaced by ids (memarg offsets modulo 2^32: finding D5) -/
theorem plain_operator_is_kept_exactly (e : PEnv) (ids : List Nat) (o : Op) (loc : Nat) (a : List Arg)
    (h1 : o.name ≠ "Br") (h2 : o.name ≠ "BrIf") (h3 : o.name ≠ "BrTable") (h4 : o.name ≠ "Return")
    (h5 : o.name ≠ "Unreachable") (h6 : o.name ≠ "Nop") (ha : pMapArgs e (wrapOffsets o.args) = some a) :
    leafEffect e ids false o loc = some ([(.leaf ⟨o.name, a⟩, loc)], false) := by
  simp [leafEffect, h1, h2, h3, h4, h5, h6, ha]

/-- **parse followed by emit, on the model, for every well-nested body**: the emitted operator
    sequence is the structural flattening (block structure, block types, branch depths, every
    surviving operator with name and immediates, entity operands through the two maps) of the tree
    `treeL` computes from the *source*: nops and dead code gone, everything else in place -/
theorem body_round_trip_is_flatten_of_source_tree (m : IdMaps) (e : PEnv) (entryTy : Nat) (body : PL)
    (hw : body.WF) (endLoc : Nat) (is : List (BInstr × Nat)) (cs : List PSeq) (u : Bool)
    (h : expL e [0] 1 false body = some (is, cs, u))
    (t : TL LSeqTy LInstr) (ht : treeL e [0] 1 false body = some t)
    (ops : List (Nat × Op)) (hf : flattenL m [0] t = some ops) :
    ∃ seqs, buildBody e entryTy (body.flat ++ [(opEnd, endLoc)]) = some seqs ∧
      ∃ n, ∀ fuel, n ≤ fuel → (emitBodyFuel m (PSeqs.toArena seqs) fuel 0).map (·.1) =
        some (ops.map (·.2) ++ [⟨"End", []⟩]) := by
  obtain ⟨seqs, t', hb, ht', hg, hv⟩ := parsed_body_has_tree_view e entryTy body hw endLoc is cs u h
  cases ht.symm.trans ht'
  exact ⟨seqs, hb, emitted_body_is_flatten m seqs 0 _ t hg hv ops hf⟩

/-- **the body round trip in source terms**: for every well-nested body that parses, what
    `emit ∘ parse` writes is `outL` of the *source tree* — the operators that are neither `nop` nor
    behind an unconditional transfer, in order, each with its name and immediates, entity operands
    through the parse-time and the emit-time map (`outArgs`), branches with the depths they had,
    block types in normal form (`outBt`), an `else` for every `if`, and the closing `end` -/
theorem body_round_trip_in_source_terms (m : IdMaps) (e : PEnv) (entryTy : Nat) (body : PL)
    (hw : body.WF) (endLoc : Nat) (is : List (BInstr × Nat)) (cs : List PSeq) (u : Bool)
    (h : expL e [0] 1 false body = some (is, cs, u))
    (ops : List (Nat × Op)) (u' : Bool) (ho : outL e m false body = some (ops, u')) :
    ∃ seqs, buildBody e entryTy (body.flat ++ [(opEnd, endLoc)]) = some seqs ∧
      ∃ n, ∀ fuel, n ≤ fuel → (emitBodyFuel m (PSeqs.toArena seqs) fuel 0).map (·.1) =
        some (ops.map (·.2) ++ [⟨"End", []⟩]) := by
  obtain ⟨t, ht, _, _⟩ := view_L e body [0] 1 false is cs u h
  have hr := (round_L e m body [0] 1 false is cs u t h ht (by simp) (by simp)).1
  rw [ho] at hr
  exact body_round_trip_is_flatten_of_source_tree m e entryTy body hw endLoc is cs u h t ht ops hr

/-- **the parse of a well-nested body succeeds exactly when its recursive description answers**
    (`buildBody_flat`: the two are equal as `Option` values): the hypothesis `expL … = some …` of the
    theorems above is "the parse succeeded", nothing more -/
theorem parse_answers_iff_description_answers (e : PEnv) (entryTy : Nat) (body : PL) (hw : body.WF) (endLoc : Nat) :
    (buildBody e entryTy (body.flat ++ [(opEnd, endLoc)])).isSome = true ↔ (expL e [0] 1 false body).isSome = true := by
  rw [buildBody_flat e entryTy hw, Option.isSome_map]

/-- the body round trip stated from the parse that happened: whenever `LocalFunction::parse`
    answered on a well-nested body and the emission maps cover what survives (`outL` answers),
    `emit` writes `outL` of the source tree -/
theorem parsed_body_round_trip (m : IdMaps) (e : PEnv) (entryTy : Nat) (body : PL) (hw : body.WF) (endLoc : Nat)
    (seqs : List PSeq) (hp : buildBody e entryTy (body.flat ++ [(opEnd, endLoc)]) = some seqs)
    (ops : List (Nat × Op)) (u' : Bool) (ho : outL e m false body = some (ops, u')) :
    ∃ n, ∀ fuel, n ≤ fuel → (emitBodyFuel m (PSeqs.toArena seqs) fuel 0).map (·.1) =
        some (ops.map (·.2) ++ [⟨"End", []⟩]) := by
  obtain ⟨r, hr⟩ := Option.isSome_iff_exists.1 (expL_of_buildBody e entryTy body hw endLoc seqs hp)
  obtain ⟨is, cs, u⟩ := r
  obtain ⟨seqs', hb, hn⟩ := body_round_trip_in_source_terms m e entryTy body hw endLoc is cs u hr ops u' ho
  rw [hp] at hb
  obtain rfl := Option.some.inj hb
  exact hn

/-- dead code and `nop`s contribute nothing to the output -/
theorem out_of_nop (e : PEnv) (m : IdMaps) (o : Op) (loc : Nat) (hn : o.name = "Nop") :
    outI e m false (.op o loc) = some ([], false) := by
  simp [outI, outLeaf_nop e m o loc hn, transfers_nop hn]

theorem out_of_dead (e : PEnv) (m : IdMaps) (i : PI) : outI e m true i = some ([], true) :=
  outI_dead e m i

-- non-vacuity: a body with a nop, a branch out of a block followed by dead code containing a block
def sampleBody : PL :=
  .cons (.op ⟨"Nop", []⟩ 1)
  (.cons (.blk ⟨"Block", [.bt .empty]⟩ 2
      (.cons (.op ⟨"Br", [.ref "l" 0]⟩ 3)
       (.cons (.blk ⟨"Block", [.bt .empty]⟩ 4 (.cons (.op ⟨"I32Const", [.num 7]⟩ 5) .nil) 6)
        (.cons (.op ⟨"Drop", []⟩ 7) .nil))) 8)
  (.cons (.op ⟨"I32Const", [.num 1]⟩ 9) .nil))
def sampleEnv : PEnv := ⟨[], [], [], []⟩
example : (expL sampleEnv [0] 1 false sampleBody).map (fun r => (r.1, r.2.1.map (·.instrs), r.2.2)) =
    some ([(.block 1, 2), (.leaf ⟨"I32Const", [.num 1]⟩, 9)],
          [[(.br 1, 3)], [(.leaf ⟨"I32Const", [.num 7]⟩, 5)]], false) := by decide +kernel

example : (outL sampleEnv { identity := ["f", "t", "g", "m", "y", "d", "e", "x"] } false sampleBody).map (fun r => r.1.map (·.2)) =
    some [⟨"Block", [.bt .empty]⟩, ⟨"Br", [.ref "l" 0]⟩, ⟨"End", []⟩, ⟨"I32Const", [.num 1]⟩] := by decide +kernel

end C03
end Walrus