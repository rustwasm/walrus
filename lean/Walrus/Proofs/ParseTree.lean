import Walrus.SourceTree
import Walrus.Proofs.LeafClass
import Walrus.Proofs.Lists

/-!
Parse side of the structural refinement (C03, C01): the explicit control stack of
`LocalFunction::parse` (`pstep`/`prun`, Walrus/Parse.lean), run on the flat operator stream of a
well-nested body, equals the recursive description `expI`/`expL` of the source tree
(Walrus/SourceTree.lean) as `Option` values (`prun_I`/`prun_L`, `buildBody_flat`): where the description
answers, the parse builds exactly the arena it computes; where it fails, so does the parse.
-/
namespace Walrus

theorem prun_append (e : PEnv) (a b : List (Op × Nat)) (st : PSt) :
    prun e st (a ++ b) = (prun e st a).bind (prun e · b) := by
  induction a generalizing st with
  | nil => simp [prun]
  | cons o os ih =>
    obtain ⟨op, loc⟩ := o
    simp only [List.cons_append, prun]
    cases pstep e st op loc <;> simp [ih]

theorem prun_cons (e : PEnv) (st : PSt) (o : Op) (loc : Nat) (r : List (Op × Nat)) :
    prun e st ((o, loc) :: r) = (pstep e st o loc).bind (prun e · r) := rfl

/-- `appendTo` for several instructions at once -/
def appendAt (seqs : List PSeq) (c : Nat) (is : List (BInstr × Nat)) : List PSeq :=
  seqs.modify c fun q => { q with instrs := q.instrs ++ is }

section
variable {e : PEnv} {seqs : List PSeq} {c n : Nat} {u unr : Bool} {k kind : BlockKind} {ty ty0 : SeqTy}
  {fs rest : List PFrame} {ie : List IfSt}

theorem appendTo_eq (s : Nat) (i : BInstr) (loc : Nat) : appendTo seqs s i loc = appendAt seqs s [(i, loc)] := rfl

@[simp] theorem appendAt_nil (seqs : List PSeq) (c : Nat) : appendAt seqs c [] = seqs := by
  simp only [appendAt, List.append_nil]
  exact List.modify_id c seqs

theorem appendAt_appendAt (seqs : List PSeq) (c : Nat) (a b : List (BInstr × Nat)) :
    appendAt (appendAt seqs c a) c b = appendAt seqs c (a ++ b) := by
  simp [appendAt, List.modify_modify_eq, Function.comp_def]

@[simp] theorem length_appendAt (is : List (BInstr × Nat)) : (appendAt seqs c is).length = seqs.length := by
  simp [appendAt]

@[simp] theorem length_setEnd (loc : Nat) : (setEnd seqs n loc).length = seqs.length := by
  simp [setEnd]

/- The arena is a plain list and a frame names its sequence by position.  Where a position has to be the
length of a prefix it is a hypothesis (`h : seqs.length = c`), not part of the statement: the positions
`expI` computes are sums, and the side condition is left to `simp` / `omega` at the point of use. -/
theorem appendAt_append_left (hc : c < seqs.length) (l₂ : List PSeq) (is : List (BInstr × Nat)) :
    appendAt (seqs ++ l₂) c is = appendAt seqs c is ++ l₂ := modify_append_left hc _ _

theorem appendAt_append_cons (h : seqs.length = c) (q : PSeq) (l₂ : List PSeq) (is : List (BInstr × Nat)) :
    appendAt (seqs ++ q :: l₂) c is = seqs ++ { q with instrs := q.instrs ++ is } :: l₂ := modify_append_cons h _ _ _

theorem setEnd_append_cons (h : seqs.length = c) (q : PSeq) (l₂ : List PSeq) (loc : Nat) :
    setEnd (seqs ++ q :: l₂) c loc = seqs ++ { q with fin := loc } :: l₂ := modify_append_cons h _ _ _

/- One equation per arm of `append_instruction` (`local_function/mod.rs`), on a state whose innermost frame
is sequence `c`; each says when the arm panics (`none`) as well as what it does. -/

theorem frameSeq_eq (st : PSt) : frameSeq st = fun n => (st.controls.map (·.seq))[n]? := by
  funext n; simp [frameSeq]

theorem allocIn_zero (i : BInstr) (loc : Nat) :
    allocIn ⟨seqs, ⟨c, unr, kind, ty⟩ :: rest, ie⟩ 0 i loc =
      some ⟨appendAt seqs c (if unr then [] else [(i, loc)]), ⟨c, unr, kind, ty⟩ :: rest, ie⟩ := by
  cases unr <;> simp [allocIn, appendTo_eq]

/-- every arm that is not `Block`/`Loop`/`If`/`Else`/`End`: the state changes as `leafEffect` says, and the
    arm panics exactly when `leafEffect` fails -/
theorem pstep_leaf {o : Op} (hs : isStructural o.name = false) (loc : Nat) :
    pstep e ⟨seqs, ⟨c, unr, kind, ty⟩ :: rest, ie⟩ o loc =
      (leafEffect e (c :: rest.map (·.seq)) unr o loc).map fun r =>
        ⟨appendAt seqs c r.1, ⟨c, r.2, kind, ty⟩ :: rest, ie⟩ := by
  simp only [isStructural, Bool.or_eq_false_iff, decide_eq_false_iff_not] at hs
  obtain ⟨⟨⟨⟨h1, h2⟩, h3⟩, h4⟩, h5⟩ := hs
  have h12 : ¬ (o.name = "Block" || o.name = "Loop") = true := by simp [h1, h2]
  -- past the five structural tests `pstep` walks the chain of `leafClass`
  unfold pstep
  rw [if_neg h12, if_neg h3, if_neg h4, if_neg h5, leafClass_elim, leafEffect_eq]
  cases leafClass o.name <;>
    simp only [frameSeq_eq, allocIn_zero, List.map_cons, Option.bind_some, markUnr]
  case br | brIf => split <;> simp [*, Option.map_eq_bind, Function.comp_def, Option.bind_assoc]
  case brTable =>
    split
    · split <;> simp [*]
    · simp [*]
  case ret | nop => simp
  case plain => simp [Option.map_eq_bind, Function.comp_def, Option.bind_assoc]

/-- `Block` / `Loop`: `push_control`, then `alloc_instr_in_control(1, ..)` — the instruction goes to the
    parent frame `c` after the new sequence exists, hence `hc` -/
theorem pstep_block {o : Op} (hn : o.name = "Block" ∨ o.name = "Loop") (hc : c < seqs.length) (loc : Nat) :
    pstep e ⟨seqs, ⟨c, unr, kind, ty⟩ :: rest, ie⟩ o loc =
      ((btOf o).bind (seqTyOfBt e)).map fun bty =>
        ⟨appendAt seqs c (if unr then [] else
            [(if o.name = "Block" then .block seqs.length else .loop seqs.length, loc)]) ++ [⟨bty, [], defaultLoc⟩],
         ⟨seqs.length, false, if o.name = "Block" then .block else .loop, bty⟩ :: ⟨c, unr, kind, ty⟩ :: rest, ie⟩ := by
  have hb : (o.name = "Block" || o.name = "Loop") = true := by simpa using hn
  unfold pstep
  rw [if_pos hb]
  cases (btOf o).bind (seqTyOfBt e) with
  | none => rfl
  | some bty => cases unr <;> simp [pushControl, allocIn, appendTo_eq, appendAt_append_left hc]

/-- `If`: `push_control` and an `IfElseState`; the `IfElse` node is only appended at the `end` -/
theorem pstep_if {o : Op} (hn : o.name = "If") (loc : Nat) :
    pstep e ⟨seqs, fs, ie⟩ o loc =
      ((btOf o).bind (seqTyOfBt e)).map fun bty =>
        ⟨seqs ++ [⟨bty, [], defaultLoc⟩], ⟨seqs.length, false, .if_, bty⟩ :: fs, ⟨loc, seqs.length, none⟩ :: ie⟩ := by
  unfold pstep
  rw [if_neg (by simp [hn]), if_pos hn]
  cases (btOf o).bind (seqTyOfBt e) <;> simp [pushControl]

/-- `Else`: the consequent gets its end location, the alternative is allocated and recorded.  Its id is
    written as `push_control` computes it, so that id and arena are rewritten together afterwards -/
theorem pstep_else (s cn loc : Nat) :
    pstep e ⟨seqs, ⟨n, u, .if_, ty⟩ :: fs, ⟨s, cn, none⟩ :: ie⟩ opElse loc =
      some ⟨setEnd seqs n loc ++ [⟨ty, [], defaultLoc⟩], ⟨(setEnd seqs n loc).length, false, .else_, ty⟩ :: fs,
            ⟨s, cn, some (setEnd seqs n loc).length⟩ :: ie⟩ := by
  simp [pstep, opElse, pushControl]

/-- `End`, the `_ => {}` arm (block, loop, function body): the frame is popped, the sequence gets its end -/
theorem pstep_end (hk : k ≠ .if_ ∧ k ≠ .else_) (loc : Nat) :
    pstep e ⟨seqs, ⟨n, u, k, ty⟩ :: fs, ie⟩ opEnd loc = some ⟨setEnd seqs n loc, fs, ie⟩ := by
  simp [pstep, opEnd, hk]

/-- `End` of an `if … else`: the `IfElse` node, located at the `if`, is appended to the parent -/
theorem pstep_end_else (s cn alt loc : Nat) :
    pstep e ⟨seqs, ⟨n, u, .else_, ty⟩ :: ⟨c, unr, kind, ty0⟩ :: rest, ⟨s, cn, some alt⟩ :: ie⟩ opEnd loc =
      some ⟨appendAt (setEnd seqs n loc) c (if unr then [] else [(.ifElse cn alt, s)]),
            ⟨c, unr, kind, ty0⟩ :: rest, ie⟩ := by
  simp [pstep, opEnd, allocIn_zero]

/-- `End` of an `if` without `else`: `push_control(Else)` and `pop_control` at once leave an empty alternative -/
theorem pstep_end_if (s cn loc : Nat) :
    pstep e ⟨seqs, ⟨n, u, .if_, ty⟩ :: ⟨c, unr, kind, ty0⟩ :: rest, ⟨s, cn, none⟩ :: ie⟩ opEnd loc =
      some ⟨appendAt (setEnd seqs n loc ++ [⟨ty, [], defaultLoc⟩]) c (if unr then [] else [(.ifElse cn seqs.length, s)]),
            ⟨c, unr, kind, ty0⟩ :: rest, ie⟩ := by
  simp [pstep, opEnd, pushControl, allocIn_zero]

end

/-- the state after the constructs described by `r` have run in frame `c`: their instructions appended
    to sequence `c`, the sequences they created appended to the arena -/
def ranIn (seqs : List PSeq) (c : Nat) (kind : BlockKind) (ty : SeqTy) (rest : List PFrame) (ie : List IfSt)
    (r : List (BInstr × Nat) × List PSeq × Bool) : PSt :=
  ⟨appendAt seqs c r.1 ++ r.2.1, ⟨c, r.2.2, kind, ty⟩ :: rest, ie⟩

/-- `ranIn` when frame `n` is a sequence just allocated at the end of the arena -/
theorem ranIn_fresh {seqs : List PSeq} {n : Nat} (h : seqs.length = n) (k : BlockKind) (bty : SeqTy)
    (fs : List PFrame) (ie : List IfSt) (r : List (BInstr × Nat) × List PSeq × Bool) :
    ranIn (seqs ++ [⟨bty, [], defaultLoc⟩]) n k bty fs ie r =
      ⟨seqs ++ ⟨bty, r.1, defaultLoc⟩ :: r.2.1, ⟨n, r.2.2, k, bty⟩ :: fs, ie⟩ := by
  simp [ranIn, appendAt_append_cons h]

/- Running the flat form of a well-formed tree from a state whose innermost frame is an existing
   sequence `c` *is* the recursive description, success and failure alike.  Each construct: the opening
   operator (`pstep_block` / `pstep_if`), the body by induction in the fresh frame (`ranIn_fresh`), the
   closing operator. -/
mutual
theorem prun_I {e : PEnv} : (i : PI) → i.WF → ∀ {seqs : List PSeq} {c : Nat} {unr : Bool} {kind : BlockKind} {ty : SeqTy}
    {rest : List PFrame} {ie : List IfSt}, c < seqs.length →
    prun e ⟨seqs, ⟨c, unr, kind, ty⟩ :: rest, ie⟩ i.flat =
      (expI e (c :: rest.map (·.seq)) seqs.length unr i).map (ranIn seqs c kind ty rest ie)
  | .op o loc, hw, seqs, c, unr, kind, ty, rest, ie, hc => by
      simp [PI.flat, prun, pstep_leaf hw, expI, ranIn, Function.comp_def]
  | .blk o loc b endLoc, hw, seqs, c, unr, kind, ty, rest, ie, hc => by
      simp only [PI.flat, prun_cons, pstep_block hw.1 hc, expI]
      cases (btOf o).bind (seqTyOfBt e) with
      | none => rfl
      | some bty =>
        simp only [Option.map_some, Option.bind_some, prun_append]
        rw [prun_L b hw.2 (by simp)]
        simp only [List.map_cons, List.length_append, length_appendAt, List.length_cons, List.length_nil]
        cases expL e (seqs.length :: c :: rest.map (·.seq)) (seqs.length + 1) false b with
        | none => rfl
        | some r =>
          have hk : (if o.name = "Block" then BlockKind.block else .loop) ≠ .if_ ∧
              (if o.name = "Block" then BlockKind.block else .loop) ≠ .else_ := by split <;> simp
          simp [ranIn, prun, pstep_end hk, appendAt_append_cons, setEnd_append_cons]
  | .if1 o loc t endLoc, hw, seqs, c, unr, kind, ty, rest, ie, hc => by
      simp only [PI.flat, prun_cons, pstep_if hw.1, expI]
      cases (btOf o).bind (seqTyOfBt e) with
      | none => rfl
      | some bty =>
        simp only [Option.map_some, Option.bind_some, prun_append]
        rw [prun_L t hw.2 (by simp)]
        simp only [List.map_cons, List.length_append, List.length_cons, List.length_nil]
        cases expL e (seqs.length :: c :: rest.map (·.seq)) (seqs.length + 1) false t with
        | none => rfl
        | some r =>
          simp [ranIn, prun, pstep_end_if, appendAt_append_cons, setEnd_append_cons, appendAt_append_left hc,
            Nat.add_assoc, Nat.add_comm 1]
  | .if2 o loc t elseLoc el endLoc, hw, seqs, c, unr, kind, ty, rest, ie, hc => by
      simp only [PI.flat, prun_cons, pstep_if hw.1, expI]
      cases (btOf o).bind (seqTyOfBt e) with
      | none => rfl
      | some bty =>
        simp only [Option.map_some, Option.bind_some, prun_append, prun_cons]
        rw [prun_L t hw.2.1 (by simp)]
        simp only [List.map_cons, List.length_append, List.length_cons, List.length_nil]
        cases expL e (seqs.length :: c :: rest.map (·.seq)) (seqs.length + 1) false t with
        | none => rfl
        | some r =>
          simp only [Option.map_some, Option.bind_some, ranIn_fresh rfl, pstep_else, setEnd_append_cons rfl]
          rw [prun_L el hw.2.2 (by simp)]
          -- the alternative's id, as the arena gives it and as `expI` writes it
          have hl : (seqs ++ (⟨bty, r.1, elseLoc⟩ : PSeq) :: r.2.1).length = seqs.length + 1 + r.2.1.length := by
            simp; omega
          simp only [List.map_cons, List.length_append (bs := [_]), List.length_cons, List.length_nil, hl]
          cases expL e ((seqs.length + 1 + r.2.1.length) :: c :: rest.map (·.seq)) (seqs.length + 1 + r.2.1.length + 1)
              false el with
          | none => rfl
          | some r2 =>
            simp only [Option.map_some, Option.bind_some, ranIn_fresh hl, pstep_end_else, setEnd_append_cons hl, prun]
            rw [appendAt_append_left (by omega), appendAt_append_left hc]
            simp [ranIn]
theorem prun_L {e : PEnv} : (l : PL) → l.WF → ∀ {seqs : List PSeq} {c : Nat} {unr : Bool} {kind : BlockKind} {ty : SeqTy}
    {rest : List PFrame} {ie : List IfSt}, c < seqs.length →
    prun e ⟨seqs, ⟨c, unr, kind, ty⟩ :: rest, ie⟩ l.flat =
      (expL e (c :: rest.map (·.seq)) seqs.length unr l).map (ranIn seqs c kind ty rest ie)
  | .nil, _, seqs, c, unr, kind, ty, rest, ie, hc => by
      simp [PL.flat, prun, expL, ranIn]
  | .cons hd tl, hw, seqs, c, unr, kind, ty, rest, ie, hc => by
      simp only [PL.flat, prun_append, prun_I hd hw.1 hc, expL]
      cases expI e (c :: rest.map (·.seq)) seqs.length unr hd with
      | none => rfl
      | some r1 =>
        simp only [Option.map_some, Option.bind_some, ranIn]
        rw [prun_L tl hw.2 (by simp; omega)]
        simp only [List.length_append, length_appendAt]
        cases expL e (c :: rest.map (·.seq)) (seqs.length + r1.2.1.length) r1.2.2 tl with
        | none => rfl
        | some r2 =>
          simp [ranIn, appendAt_append_left (seqs := appendAt seqs c r1.1) (by simpa using hc), appendAt_appendAt]
end

/-- `LocalFunction::parse` on a whole body: the arena is the entry sequence holding what `expL` appends,
    followed by the sequences `expL` creates, in allocation order -/
theorem buildBody_flat (e : PEnv) (entryTy : Nat) {body : PL} (hw : body.WF) (endLoc : Nat) :
    buildBody e entryTy (body.flat ++ [(opEnd, endLoc)]) =
      (expL e [0] 1 false body).map fun r => ⟨.multi entryTy, r.1, endLoc⟩ :: r.2.1 := by
  simp only [buildBody, pushControl, prun_append, List.length_nil, List.nil_append]
  rw [prun_L body hw (by simp)]
  simp only [List.map_nil, List.length_cons, List.length_nil, Nat.zero_add]
  cases expL e [0] 1 false body with
  | none => rfl
  | some r => simp [ranIn, prun, pstep_end, appendAt, setEnd]

theorem buildBody_eq (e : PEnv) (entryTy : Nat) (body : PL) (hw : body.WF) (endLoc : Nat)
    (is : List (BInstr × Nat)) (cs : List PSeq) (u : Bool)
    (h : expL e [0] 1 false body = some (is, cs, u)) :
    buildBody e entryTy (body.flat ++ [(opEnd, endLoc)]) = some (⟨.multi entryTy, is, endLoc⟩ :: cs) := by
  rw [buildBody_flat e entryTy hw, h]; rfl

/-- `wrapOffsets` rewrites numeric immediates only.  Used by Proofs/EmitTotal; it stands here because every
    `fun_induction wrapOffsets` outside Props/C03 has to be in a module Props/C03 imports: two modules that
    use it independently and are later imported together clash on the auxiliary declarations it generates. -/
theorem wrapOffsets_refs (sp : String) (i : Nat) : ∀ (args : List Arg), Arg.ref sp i ∈ wrapOffsets args → Arg.ref sp i ∈ args := by
  intro args
  fun_induction wrapOffsets args with
  | case1 a o k r ih =>
    simp only [List.mem_cons, reduceCtorEq, false_or]
    exact Or.imp_right ih
  | case2 x r _ ih =>
    simp only [List.mem_cons]
    exact Or.imp_right ih
  | case3 => exact id

end Walrus
