import Walrus.Maps
import Walrus.Proofs.Locals
import Walrus.Proofs.Module

/-!
# C19 — index maps exposed to extension code agree with the binaries

Parse time (`parseMaps`, `Walrus/Maps.lean`): a type index maps to the id of a type with the signature
the input defines at that index; every other index space is the identity on the indices that exist.
Emit time, for the numbered lists from which `roundTripModule` and `emitMaps` build their maps
(`emitMaps`, which also sorts them by key, stands in the `example` only): the index reported for an id
is the position at which its entity is emitted, and no two ids are reported the same index.
Exact prediction of both maps of the real code is the correspondence; the oracle reads the
parse-time map inside `on_parse` and checks every entity's attributes against the independently
decoded input, and follows every id to its output index through tracer names.
-/
namespace Walrus
namespace C19

theorem foldl_distinct_mem (l : List Sig) : ∀ (acc : List Sig) (s : Sig), (s ∈ acc ∨ s ∈ l) →
    s ∈ l.foldl (fun seen s => if seen.contains s then seen else seen ++ [s]) acc :=
  fun acc s => (mem_foldl_distinct l s acc).2

theorem mem_distinctSigs (sigs : List Sig) (s : Sig) (h : s ∈ sigs) : s ∈ distinctSigs sigs :=
  (mem_distinctSigs_iff sigs s).2 h

/-- **parse-time map, types**: the id a type index maps to denotes a type with exactly the
    signature the input defines at that index (de-duplication merges only equal signatures) -/
theorem type_index_denotes_its_signature (sigs : List Sig) (i : Nat) (s : Sig) (h : sigs[i]? = some s) :
    ∃ id, (dedupIds sigs)[i]? = some id ∧ (distinctSigs sigs)[id]? = some s := by
  have hid : (dedupIds sigs)[i]? = some ((distinctSigs sigs).findIdx (· == s)) := by simp [dedupIds, h]
  obtain ⟨s', hs', hd⟩ := dedupIds_some sigs i _ hid
  exact ⟨_, hid, (Option.some.inj (hs'.symm.trans h)) ▸ hd⟩

/-- out-of-range type indices are not in the map -/
theorem type_index_out_of_range (sigs : List Sig) (i : Nat) (h : sigs.length ≤ i) : (dedupIds sigs)[i]? = none := by
  simp [dedupIds, h]

/-- **parse-time map, other spaces**: index `i` of an index space maps to id `i`, which is the arena
    slot the `i`-th entity of that space (imports first) was allocated in; past the end: nothing -/
theorem index_spaces_are_identity (m : ModuleM) (i : Nat) :
    (parseMaps m).funcs[i]? = (if i < importedCount m "f" + m.funcs.length then some i else none) ∧
    (parseMaps m).tables[i]? = (if i < importedCount m "t" + m.tables.length then some i else none) ∧
    (parseMaps m).mems[i]? = (if i < importedCount m "m" + m.mems.length then some i else none) ∧
    (parseMaps m).globals[i]? = (if i < importedCount m "g" + m.globals.length then some i else none) ∧
    (parseMaps m).elems[i]? = (if i < m.elems.length then some i else none) ∧
    (parseMaps m).datas[i]? = (if i < m.datas.length then some i else none) := by
  have range : ∀ n, (List.range n)[i]? = if i < n then some i else none := fun n => by
    split <;> simp [*]
  exact ⟨range _, range _, range _, range _, range _, range _⟩

/-- keyed positions: looking up the key of the `j`-th element of a list with distinct keys in
    the map "key ↦ base + position" gives `base + j` -/
theorem assoc_zipIdx_key {α : Type} (key : α → Nat) : ∀ (xs : List α) (base start : Nat),
    (xs.map key).Nodup → ∀ (j : Nat) (hj : j < xs.length),
      assoc ((xs.zipIdx start).map (fun p => (key p.1, base + p.2))) (key xs[j]) = some (base + (start + j)) :=
  fun xs base start hnd j hj => assoc_zipIdx_getElem key (base + ·) xs start hnd j hj

/-- **emit-time map, functions**: the index reported for a local function id is the position at
    which that function is emitted (imports first, then the size-sorted local functions); stated for
    the part of the map that numbers the local functions, without the identity on imports in front of it -/
theorem emitted_function_index_exact (nif : Nat) (funcs : List OutFunc) (hnd : (funcs.map (·.id)).Nodup)
    (j : Nat) (hj : j < funcs.length) :
    assoc (funcs.zipIdx.map (fun p => (p.1.id, nif + p.2))) (funcs[j].id) = some (nif + j) := by
  have := assoc_zipIdx_key (fun f : OutFunc => f.id) funcs nif 0 hnd j hj
  simpa using this

/-- **emit-time map, types**: the index reported for a type id is the position of that type in the
    emitted (sorted) type section -/
theorem emitted_type_index_exact (sorted : List (Nat × Sig)) (hnd : (sorted.map (·.1)).Nodup)
    (j : Nat) (hj : j < sorted.length) :
    assoc (sorted.zipIdx.map (fun p => (p.1.1, p.2))) (sorted[j].1) = some j := by
  have := assoc_zipIdx_key (fun p : Nat × Sig => p.1) sorted 0 0 hnd j hj
  simpa using this

/-- **emit-time map, functions, injective**: two function ids are never reported the same index —
    imports keep their own (below `nif`), local functions get `nif +` their position; no assumption
    on the ids is needed -/
theorem emitted_function_index_injective (nif : Nat) (funcs : List OutFunc) (a b x : Nat)
    (ha : assoc ((List.range nif).map (fun i => (i, i)) ++ funcs.zipIdx.map (fun p => (p.1.id, nif + p.2))) a = some x)
    (hb : assoc ((List.range nif).map (fun i => (i, i)) ++ funcs.zipIdx.map (fun p => (p.1.id, nif + p.2))) b = some x) :
    a = b :=
  funcMap_injective (fun f : OutFunc => f.id) nif funcs a b x ha hb

/-- **emit-time map, types, injective**: two type ids are never reported the same index -/
theorem emitted_type_index_injective (sorted : List (Nat × Sig)) (a b x : Nat)
    (ha : assoc (sorted.zipIdx.map (fun p => (p.1.1, p.2))) a = some x)
    (hb : assoc (sorted.zipIdx.map (fun p => (p.1.1, p.2))) b = some x) : a = b :=
  assocInj_zipIdx (fun p : Nat × Sig => p.1) (fun x => x) (fun _ _ h => h) sorted 0 a b x ha hb

/-- **the local index reported for a local is the slot the binary gives it**: unique, and (for a
    non-parameter) declared in the body's local groups with the local's own type -/
theorem emitted_local_index_exact (args : List Nat) (tyOf : Nat → String) (used : List Nat)
    (hk : ∀ l ∈ used, knownTy (tyOf l)) (l i : Nat) (h : assoc (emitLocals args tyOf used).2 l = some i) :
    (∀ l', assoc (emitLocals args tyOf used).2 l' = some i → l' = l) ∧
    ((l ∈ args ∧ args[i]? = some l) ∨
     (l ∉ args ∧ args.length ≤ i ∧ (expandLocals (emitLocals args tyOf used).1)[i - args.length]? = some (tyOf l))) := by
  refine ⟨fun l' h' => local_map_injective args tyOf used l' l i h' h, ?_⟩
  rcases local_index_spec args tyOf used hk l i h with h1 | ⟨h1, _, h3, _, h5⟩
  · exact Or.inl h1
  · exact Or.inr ⟨h1, h3, h5⟩

/-- worked instance: duplicate types, an imported function, two local functions swapped by the size
    sort — both maps as the model computes them -/
def sample : ModuleM :=
  { sigs := [(["i32"], []), ([], []), (["i32"], [])],
    imports := [("env", "f", .func 2)],
    funcs := [1, 1],
    code := [([], [(⟨"End", []⟩, 0)]), ([(2, "i32")], [(⟨"Nop", []⟩, 0), (⟨"LocalGet", [.ref "x" 1]⟩, 0), (⟨"Drop", []⟩, 0), (⟨"End", []⟩, 0)])] }

example : (parseMaps sample).types = [0, 1, 0] ∧ (parseMaps sample).funcs = [0, 1, 2] ∧
    (parseMaps sample).locals = [(1, []), (2, [0, 1])] := by decide +kernel
example : (emitMaps sample).map (fun e => (e.types, e.funcs)) = some ([(0, 1), (1, 0)], [(0, 0), (1, 2), (2, 1)]) := by decide +kernel

end C19
end Walrus
