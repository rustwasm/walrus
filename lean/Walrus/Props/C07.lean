import Walrus.Proofs.GcSweep

/-!
# C07 — GC is precise and idempotent

Model: `Walrus/Gc.lean` (`Used::new` as a worklist over the successor relation the code scans,
`gc::run` + emission as `gcRoundTrip`), predicted exactly against the real pass on generated
modules.  Proved: the worklist computes *exactly* the set reachable from the roots — nothing
unreachable is kept (precision), nothing reachable is lost — for every successor relation and
every set of roots; the only other element of the used set is the documented residue (one memory
when data segments are kept and no memory is used).  The worklist terminates within the model's fuel
on every module whose references are in range; a second run of the marking, over a successor relation
that agrees with the first on everything reachable, marks the same set; and what `gcRoundTrip` writes
has the used tables and memories, in order, and as many globals, element and data segments as are used.
That the swept module's successor relation does agree with the original one, and idempotence on the bytes, are
decided by the oracle (bytes after one and two runs; independent reachability over the emitted binary)
and by the exact-prediction correspondence.
-/
namespace Walrus
namespace C07

/-- **the used set is exactly what is reachable from the roots** (when the worklist has run to
    completion, which the driver checks on every case) -/
theorem used_is_exactly_reachable (succ : Ent → List Ent) (roots : List Ent) (fuel : Nat)
    (hdone : (closureSt succ fuel roots []).1 = []) (x : Ent) :
    x ∈ closure succ fuel roots [] ↔ Reach succ roots x :=
  closure_is_reach succ roots fuel hdone x

/-- … instantiated with walrus's roots and successor relation; the residue is the only addition -/
theorem usedSet_precise (g : GcInfo) (hdone : usedFinished g = true) (x : Ent) (hx : x ∈ usedSet g) :
    Reach (gcSucc g) (gcRoots g).eraseDups x ∨ x = ("m", 0) :=
  usedSet_reach g hdone x hx

/-- nothing reachable is dropped -/
theorem usedSet_complete (g : GcInfo) (hdone : usedFinished g = true) (x : Ent)
    (hr : Reach (gcSucc g) (gcRoots g).eraseDups x) : x ∈ usedSet g :=
  reach_usedSet g hdone x hr

/-- **the worklist terminates** on every module whose references are in range (`gcWF`: roots and
    successor edges lead to entities that exist — what validation guarantees; the driver evaluates it
    on every case): it empties its stack within `|universe|` iterations, which the model's fuel
    covers.  Nothing is pushed twice, every iteration marks one new entity. -/
theorem worklist_terminates (g : GcInfo) (h : gcWF g = true) : usedFinished g = true :=
  gcWF_finishes g h

/-- … so for every such module the used set is the reachable set and at most the residue memory
    (when the residue is added is `usedSet`'s own condition; it is not restated here) -/
theorem usedSet_is_reachable_set (g : GcInfo) (h : gcWF g = true) (x : Ent) :
    x ∈ usedSet g ↔ (Reach (gcSucc g) (gcRoots g).eraseDups x ∨ (x ∈ usedSet g ∧ x = ("m", 0))) := by
  constructor
  · intro hx
    rcases usedSet_precise g (gcWF_finishes g h) x hx with h1 | h1
    · exact Or.inl h1
    · exact Or.inr ⟨hx, h1⟩
  · rintro (h1 | h1)
    · exact usedSet_complete g (gcWF_finishes g h) x h1
    · exact h1.1

/-- **idempotence of the marking**: after the sweep every surviving entity still has the successors
    it had (hypothesis: the successor relation of the swept module agrees with the original one on
    everything reachable), so a second run of the worklist marks exactly the same set — nothing
    more can be deleted and nothing is resurrected -/
theorem second_run_marks_the_same_set (succ succ' : Ent → List Ent) (roots : List Ent)
    (hs : ∀ x, Reach succ roots x → succ' x = succ x) (x : Ent) :
    Reach succ' roots x ↔ Reach succ roots x := by
  constructor
  · intro h
    induction h with
    | root y hy => exact Reach.root y hy
    | step y z _ hz ih => exact Reach.step y z ih (by rw [← hs y ih]; exact hz)
  · intro h
    induction h with
    | root y hy => exact Reach.root y hy
    | step y z hy hz ih => exact Reach.step y z ih (by rw [hs y hy]; exact hz)

/-- non-vacuity: an unreachable function and global are dropped, what the export needs is kept -/
def sample : ModuleM :=
  { sigs := [([], [])], funcs := [0, 0, 0],
    globals := [(⟨"i32", true, false⟩, [⟨"I32Const", [.num 1]⟩]), (⟨"i32", true, false⟩, [⟨"I32Const", [.num 2]⟩])],
    exports := [("run", "f", 0)],
    code := [([], [(⟨"Call", [.ref "f" 2]⟩, 0), (⟨"End", []⟩, 0)]),
             ([], [(⟨"GlobalGet", [.ref "g" 0]⟩, 0), (⟨"Drop", []⟩, 0), (⟨"End", []⟩, 0)]),
             ([], [(⟨"GlobalGet", [.ref "g" 1]⟩, 0), (⟨"Drop", []⟩, 0), (⟨"End", []⟩, 0)])] }

example : (mkGcInfo sample).map (fun g => (usedFinished g, (usedSet g).filter (·.1 ≠ "y"))) =
    some (true, [("f", 0), ("f", 2), ("g", 1)]) := by decide +kernel
example : (mkGcInfo sample).map gcWF = some true := by decide +kernel
example : (gcRoundTrip sample).map (fun o => (o.funcs.length, o.globals.length, o.exports)) =
    some (2, 1, [("run", "f", 1)]) := by decide +kernel

/-- **the emitted module holds nothing but used entities**: the output of `parse → gc::run → emit`
    is the used part of the input — the used tables and memories in order, one global / element
    segment / data segment for each used one, and no other; every function entry has its body. -/
theorem output_is_the_used_part_of_the_input (m : ModuleM) (g : GcInfo) (hg : mkGcInfo m = some g) (o : ModuleM)
    (h : gcRoundTrip m = some o) :
    o.tables = (m.tables.zipIdx.filter fun p => decide (("t", g.nit + p.2) ∈ usedSet g)).map (·.1) ∧
    o.mems = (m.mems.zipIdx.filter fun p => decide (("m", g.nim + p.2) ∈ usedSet g)).map (·.1) ∧
    o.globals.length = (m.globals.zipIdx.filter fun p => decide (("g", g.nig + p.2) ∈ usedSet g)).length ∧
    o.elems.length = (m.elems.zipIdx.filter fun p => decide (("e", p.2) ∈ usedSet g)).length ∧
    o.datas.length = (m.datas.zipIdx.filter fun p => decide (("d", p.2) ∈ usedSet g)).length ∧
    o.funcs.length = o.code.length :=
  sweep_keeps_exactly_the_used m g hg o h

/-- … and a used entity is reachable from the roots, the one residue memory aside: together,
    nothing unreachable is emitted (for every module whose references are in range) -/
theorem used_entity_is_reachable (g : GcInfo) (hw : gcWF g = true) (x : Ent) (hx : x ∈ usedSet g)
    (hne : x ≠ ("m", 0)) : Reach (gcSucc g) (gcRoots g).eraseDups x :=
  (usedSet_precise g (gcWF_finishes g hw) x hx).resolve_right hne

end C07
end Walrus
