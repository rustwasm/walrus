import Walrus.Proofs.ParseView
import Walrus.Proofs.Leaf
import Walrus.Proofs.Body
import Walrus.Agree

/-!
The body round trip in source terms (C03): what `emit ∘ parse` writes for a well-nested body is
described directly on the source tree by `outL` — the surviving operators in order, with their
names, their immediates, entity operands taken through the parse-time and emit-time maps, the same
branch depths, block types in normal form, an `else` for every `if` — and nothing else.
-/
namespace Walrus

mutual
/-- output of one source construct: the operators with their locations, and whether the rest of the
    sequence is unreachable afterwards -/
def outI (e : PEnv) (m : IdMaps) (unr : Bool) : PI → Option (List (Nat × Op) × Bool)
  | .op o loc =>
    if unr then some ([], true)
    else (outLeaf e m o loc).map fun ops => (ops, transfers o.name)
  | .blk o loc b endLoc =>
    if unr then some ([], true) else
    match outBt e m o, outL e m false b with
    | some bt, some (body, _) =>
      some ([(loc, ⟨(if o.name = "Block" then "Block" else "Loop"), [bt]⟩)] ++ body ++ [(endLoc, ⟨"End", []⟩)], false)
    | _, _ => none
  | .if1 o loc t endLoc =>
    if unr then some ([], true) else
    match outBt e m o, outL e m false t with
    | some bt, some (tb, _) =>
      some ([(loc, ⟨"If", [bt]⟩)] ++ tb ++ [(endLoc, ⟨"Else", []⟩)] ++ [(defaultLoc, ⟨"End", []⟩)], false)
    | _, _ => none
  | .if2 o loc t elseLoc el endLoc =>
    if unr then some ([], true) else
    match outBt e m o, outL e m false t, outL e m false el with
    | some bt, some (tb, _), some (eb, _) =>
      some ([(loc, ⟨"If", [bt]⟩)] ++ tb ++ [(elseLoc, ⟨"Else", []⟩)] ++ eb ++ [(endLoc, ⟨"End", []⟩)], false)
    | _, _, _ => none
def outL (e : PEnv) (m : IdMaps) (unr : Bool) : PL → Option (List (Nat × Op) × Bool)
  | .nil => some ([], unr)
  | .cons h t =>
    match outI e m unr h with
    | none => none
    | some (o1, u1) =>
      match outL e m u1 t with
      | none => none
      | some (o2, u2) => some (o1 ++ o2, u2)
end

theorem outI_op_some {e : PEnv} {m : IdMaps} {o : Op} {loc : Nat} {ops : List (Nat × Op)} {u : Bool}
    (h : outI e m false (.op o loc) = some (ops, u)) : outLeaf e m o loc = some ops ∧ u = transfers o.name := by
  simp only [outI, Bool.false_eq_true, if_false, Option.map_eq_some_iff, Prod.mk.injEq] at h
  obtain ⟨_, h, rfl, rfl⟩ := h
  exact ⟨h, rfl⟩

theorem outI_blk_some {e : PEnv} {m : IdMaps} {o : Op} {loc el : Nat} {b : PL} {ops : List (Nat × Op)} {u : Bool}
    (h : outI e m false (.blk o loc b el) = some (ops, u)) :
    ∃ a body ub, outBt e m o = some a ∧ outL e m false b = some (body, ub) ∧ u = false ∧
      ops = (loc, ⟨(if o.name = "Block" then "Block" else "Loop"), [a]⟩) :: (body ++ [(el, ⟨"End", []⟩)]) := by
  simp only [outI, Bool.false_eq_true, if_false] at h
  split at h
  · cases h; exact ⟨_, _, _, ‹_›, ‹_›, rfl, by simp⟩
  · cases h

theorem outI_if1_some {e : PEnv} {m : IdMaps} {o : Op} {loc el : Nat} {t : PL} {ops : List (Nat × Op)} {u : Bool}
    (h : outI e m false (.if1 o loc t el) = some (ops, u)) :
    ∃ a tb ub, outBt e m o = some a ∧ outL e m false t = some (tb, ub) ∧ u = false ∧
      ops = (loc, ⟨"If", [a]⟩) :: (tb ++ [(el, ⟨"Else", []⟩), (defaultLoc, ⟨"End", []⟩)]) := by
  simp only [outI, Bool.false_eq_true, if_false] at h
  split at h
  · cases h; exact ⟨_, _, _, ‹_›, ‹_›, rfl, by simp⟩
  · cases h

theorem outI_if2_some {e : PEnv} {m : IdMaps} {o : Op} {loc l2 el : Nat} {t f : PL} {ops : List (Nat × Op)} {u : Bool}
    (h : outI e m false (.if2 o loc t l2 f el) = some (ops, u)) :
    ∃ a tb ub fb uf, outBt e m o = some a ∧ outL e m false t = some (tb, ub) ∧ outL e m false f = some (fb, uf) ∧
      u = false ∧ ops = (loc, ⟨"If", [a]⟩) :: (tb ++ (l2, ⟨"Else", []⟩) :: (fb ++ [(el, ⟨"End", []⟩)])) := by
  simp only [outI, Bool.false_eq_true, if_false] at h
  split at h
  · cases h; exact ⟨_, _, _, _, _, ‹_›, ‹_›, ‹_›, rfl, by simp⟩
  · cases h

theorem outL_cons_some {e : PEnv} {m : IdMaps} {unr : Bool} {h : PI} {t : PL} {ops : List (Nat × Op)} {u : Bool}
    (ho : outL e m unr (.cons h t) = some (ops, u)) :
    ∃ o1 u1 o2, outI e m unr h = some (o1, u1) ∧ outL e m u1 t = some (o2, u) ∧ ops = o1 ++ o2 := by
  simp only [outL] at ho
  split at ho
  · cases ho
  · split at ho
    · cases ho
    · cases ho; exact ⟨_, _, _, ‹_›, ‹_›, rfl⟩

mutual
theorem outI_dead (e : PEnv) (m : IdMaps) : (i : PI) → outI e m true i = some ([], true)
  | .op _ _ => by simp [outI]
  | .blk _ _ _ _ => by simp [outI]
  | .if1 _ _ _ _ => by simp [outI]
  | .if2 _ _ _ _ _ _ => by simp [outI]
theorem outL_dead (e : PEnv) (m : IdMaps) : (l : PL) → outL e m true l = some ([], true)
  | .nil => by simp [outL]
  | .cons h t => by simp [outL, outI_dead e m h, outL_dead e m t]
end

theorem branchTarget_get {ids : List Nat} {n b : Nat} (hnd : ids.Nodup) (h : ids[n]? = some b) :
    branchTarget ids b = some n := by
  obtain ⟨hlt, rfl⟩ := List.getElem?_eq_some_iff.1 h
  simp [branchTarget, hnd.idxOf_getElem, hlt]

theorem branchTarget_mapM {ids ns bs : List Nat} (hnd : ids.Nodup)
    (h : ns.mapM (fun n => ids[n]?) = some bs) : bs.mapM (branchTarget ids) = some ns :=
  mapM_inverse (fun _ _ => branchTarget_get hnd) h

theorem flattenL_leaf1 (m : IdMaps) (ids : List Nat) (i : BInstr × Nat) :
    flattenL m ids (leafTL [i]) = (emitPlain m ids i.1).map fun op => [(i.2, op)] := by
  simp only [leafTL, flattenL, flattenI]
  cases emitPlain m ids i.1 <;> simp

theorem leaf_unreachable {e : PEnv} {ids : List Nat} {o : Op} {loc : Nat}
    {is : List (BInstr × Nat)} {u : Bool} (h : leafEffect e ids true o loc = some (is, u)) :
    is = [] ∧ u = true := by
  rw [leafEffect_dead, Option.map_eq_some_iff] at h
  obtain ⟨_, _, h⟩ := h
  cases h; exact ⟨rfl, rfl⟩

theorem leaf_reachable {e : PEnv} (m : IdMaps) {ids : List Nat} (hnd : ids.Nodup) {o : Op} {loc : Nat}
    {is : List (BInstr × Nat)} {u : Bool} (h : leafEffect e ids false o loc = some (is, u)) :
    flattenL m ids (leafTL is) = outLeaf e m o loc ∧ u = transfers o.name := by
  rw [leafEffect_eq] at h
  rw [outLeaf_eq, transfers_eq]
  cases hc : leafClass o.name <;> simp only [hc, Bool.false_eq_true, if_false] at h ⊢
  case br | brIf =>
    split at h <;> simp only [Option.map_eq_some_iff, reduceCtorEq] at h
    obtain ⟨b, hb, h⟩ := h
    cases h
    simp [*, flattenL_leaf1, emitPlain, branchTarget_get hnd hb]
  case brTable =>
    split at h <;> try cases h
    split at h <;> cases h
    rename_i dd tts hd ht
    simp [*, flattenL_leaf1, emitPlain, branchTarget_get hnd hd, branchTarget_mapM hnd ht]
  case ret =>
    cases h
    simp only [flattenL_leaf1, emitPlain, and_true]
    cases mapArgs m o.args <;> rfl
  case nop =>
    cases h
    simp [leafTL, flattenL]
  case plain =>
    obtain ⟨a, ha, h⟩ := Option.map_eq_some_iff.1 h
    cases h
    simp only [flattenL_leaf1, emitPlain, outArgs, ha, Option.bind_some, and_true]
    cases mapArgs m a <;> rfl

theorem flattenL_app (m : IdMaps) (ctx : List Nat) : ∀ (a b : TL LSeqTy LInstr),
    flattenL m ctx (TL.app a b) =
      match flattenL m ctx a, flattenL m ctx b with
      | some x, some y => some (x ++ y)
      | _, _ => none
  | .nil, b => by
    simp only [TL.app, flattenL]
    cases flattenL m ctx b <;> simp
  | .cons h t, b => by
    simp only [TL.app, flattenL, flattenL_app m ctx t b]
    -- both sides are `some` exactly when all three results are: enumerate them
    cases flattenI m ctx h <;> cases flattenL m ctx t <;> cases flattenL m ctx b <;> simp

theorem flattenL_single (m : IdMaps) (ctx : List Nat) (n : TI LSeqTy LInstr) :
    flattenL m ctx (.cons n .nil) = flattenI m ctx n := by
  simp only [flattenL]
  cases flattenI m ctx n <;> simp

/-- the frame invariant of a parse: the enclosing sequence ids are distinct and below the next free id -/
def Fresh (ids : List Nat) (next : Nat) : Prop := ids.Nodup ∧ ∀ x ∈ ids, x < next

theorem Fresh.push {ids : List Nat} {next : Nat} (h : Fresh ids next) : Fresh (next :: ids) (next + 1) :=
  ⟨List.nodup_cons.2 ⟨fun hm => Nat.lt_irrefl _ (h.2 next hm), h.1⟩, fun x hx => by
    rcases List.mem_cons.1 hx with rfl | hx
    · exact Nat.lt_succ_self _
    · exact Nat.lt_succ_of_lt (h.2 x hx)⟩

theorem Fresh.mono {ids : List Nat} {next n : Nat} (h : Fresh ids next) (hn : next ≤ n) : Fresh ids n :=
  ⟨h.1, fun x hx => Nat.lt_of_lt_of_le (h.2 x hx) hn⟩

/-- `fl` (a flattened tree) is what `out` (of `outI`/`outL`) writes, failure included, and `out`'s flag is `u` -/
def RoundsTo (fl : Option (List (Nat × Op))) (out : Option (List (Nat × Op) × Bool)) (u : Bool) : Prop :=
  fl = out.map (·.1) ∧ ∀ r, out = some r → r.2 = u

theorem round_cons {e : PEnv} {m : IdMaps} {ids : List Nat} {unr u1 u : Bool} {h : PI} {tl : PL} {t1 t2 : TL LSeqTy LInstr}
    (h1 : RoundsTo (flattenL m ids t1) (outI e m unr h) u1) (h2 : RoundsTo (flattenL m ids t2) (outL e m u1 tl) u) :
    RoundsTo (flattenL m ids (TL.app t1 t2)) (outL e m unr (.cons h tl)) u := by
  unfold RoundsTo
  rw [flattenL_app, h1.1, h2.1]
  simp only [outL]
  cases ho1 : outI e m unr h with
  | none => simp
  | some r1 =>
    obtain ⟨o1, f1⟩ := r1
    cases h1.2 _ ho1
    cases ho2 : outL e m f1 tl with
    | none => simp [ho2]
    | some r2 =>
      simp only [ho2, Option.map_some, Option.some.injEq, true_and]
      rintro r rfl
      exact h2.2 r2 ho2

/- The output of one construct, given the output of its bodies; `ExpL.round` assembles them with `round_cons`. -/

theorem round_op {e : PEnv} (m : IdMaps) {ids : List Nat} {unr ru : Bool} {o : Op} {loc : Nat} {ri : List (BInstr × Nat)}
    (hl : leafEffect e ids unr o loc = some (ri, ru)) (hnd : ids.Nodup) :
    RoundsTo (flattenL m ids (leafTL ri)) (outI e m unr (.op o loc)) ru := by
  unfold RoundsTo
  cases unr with
  | true =>
    obtain ⟨rfl, rfl⟩ := leaf_unreachable hl
    simp [outI_dead, leafTL, flattenL]
  | false =>
    obtain ⟨h1, rfl⟩ := leaf_reachable m hnd hl
    rw [h1]
    cases h : outLeaf e m o loc <;> simp [outI, h]

theorem round_blk {e : PEnv} (m : IdMaps) {ids : List Nat} {next : Nat} {unr : Bool} {o : Op} {loc : Nat} {b : PL} {endLoc : Nat}
    {ty : SeqTy} {bt : TL LSeqTy LInstr} (hty : (btOf o).bind (seqTyOfBt e) = some ty)
    (ih : flattenL m (next :: ids) bt = (outL e m false b).map (·.1)) :
    RoundsTo (flattenL m ids (if unr then .nil else .cons (.one ((if o.name = "Block" then BInstr.block next
        else BInstr.loop next), loc) next (ty, endLoc) bt) .nil)) (outI e m unr (.blk o loc b endLoc)) unr := by
  unfold RoundsTo
  cases unr with
  | true => simp [outI_dead, flattenL]
  | false =>
    simp only [Bool.false_eq_true, if_false, flattenL_single, flattenI, outI, outBt, hty, ih, Option.bind_some]
    -- both sides match on the same two `Option`s: enumerate them; block or loop shows only when both answer
    cases blockTy m ty <;> cases outL e m false b <;> try simp
    by_cases hn : o.name = "Block" <;> simp [hn]

theorem round_if1 {e : PEnv} (m : IdMaps) {ids : List Nat} {next alt : Nat} {unr : Bool} {o : Op} {loc : Nat} {tb : PL} {endLoc : Nat}
    {ty : SeqTy} {tt : TL LSeqTy LInstr} (hty : (btOf o).bind (seqTyOfBt e) = some ty)
    (ih : flattenL m (next :: ids) tt = (outL e m false tb).map (·.1)) :
    RoundsTo (flattenL m ids (if unr then .nil else .cons (.two (BInstr.ifElse next alt, loc) next (ty, endLoc) tt
        alt (ty, defaultLoc) .nil) .nil)) (outI e m unr (.if1 o loc tb endLoc)) unr := by
  unfold RoundsTo
  cases unr with
  | true => simp [outI_dead, flattenL]
  | false =>
    simp only [Bool.false_eq_true, if_false, flattenL_single, flattenI, flattenL, outI, outBt, hty, ih, Option.bind_some]
    cases blockTy m ty <;> cases outL e m false tb <;> simp  -- the `Option`s both sides match on

theorem round_if2 {e : PEnv} (m : IdMaps) {ids : List Nat} {next alt : Nat} {unr : Bool} {o : Op} {loc : Nat} {tb : PL} {elseLoc : Nat}
    {el : PL} {endLoc : Nat} {ty : SeqTy} {tt te : TL LSeqTy LInstr} (hty : (btOf o).bind (seqTyOfBt e) = some ty)
    (ih1 : flattenL m (next :: ids) tt = (outL e m false tb).map (·.1))
    (ih2 : flattenL m (alt :: ids) te = (outL e m false el).map (·.1)) :
    RoundsTo (flattenL m ids (if unr then .nil else .cons (.two (BInstr.ifElse next alt, loc) next (ty, elseLoc) tt
        alt (ty, endLoc) te) .nil)) (outI e m unr (.if2 o loc tb elseLoc el endLoc)) unr := by
  unfold RoundsTo
  cases unr with
  | true => simp [outI_dead, flattenL]
  | false =>
    simp only [Bool.false_eq_true, if_false, flattenL_single, flattenI, outI, outBt, hty, ih1, ih2, Option.bind_some]
    -- the three `Option`s both sides match on
    cases blockTy m ty <;> cases outL e m false tb <;> cases outL e m false el <;> simp

/-- the tree of a parsed body flattens to `outL` of the source, failure included, and `outL`'s flag is the
    parser's; in any frame that satisfies the invariant -/
theorem ExpL.round {e : PEnv} (m : IdMaps) {ids next unr l is cs u t} (h : ExpL e ids next unr l is cs u t)
    (hfr : Fresh ids next) :
    RoundsTo (flattenL m ids t) (outL e m unr l) u := by
  induction h with
  | nil => simp [RoundsTo, outL, flattenL]
  | op hl _ iht => exact round_cons (round_op m hl hfr.1) (iht hfr)
  | blk hty _ _ ihb iht =>
    exact round_cons (round_blk m hty (ihb hfr.push).1) (iht (hfr.mono (Nat.le_add_right _ _)))
  | if1 hty _ _ ihb iht =>
    exact round_cons (round_if1 m hty (ihb hfr.push).1) (iht (hfr.mono (Nat.le_add_right _ _)))
  | if2 hty _ _ _ ihb ihe iht =>
    exact round_cons (round_if2 m hty (ihb hfr.push).1 (ihe (hfr.mono (by omega)).push).1)
      (iht (hfr.mono (Nat.le_add_right _ _)))

theorem round_L (e : PEnv) (m : IdMaps) : (l : PL) → ∀ (ids : List Nat) (next : Nat) (unr : Bool)
    (is : List (BInstr × Nat)) (cs : List PSeq) (u : Bool) (t : TL LSeqTy LInstr),
    expL e ids next unr l = some (is, cs, u) → treeL e ids next unr l = some t →
    ids.Nodup → (∀ x ∈ ids, x < next) →
    flattenL m ids t = (outL e m unr l).map (·.1) ∧ ∀ r, outL e m unr l = some r → r.2 = u :=
  fun _ _ _ _ _ _ _ _ h ht hnd hf => (ExpL.of_eq h ht).round m ⟨hnd, hf⟩

end Walrus
