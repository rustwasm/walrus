import Walrus.Proofs.Gc
import Walrus.Proofs.Module
import Walrus.Gen.EmitOrder

/-!
# C02 — emitted binaries always validate and emission never panics

In the model a panic of `IdsToIndices::get_*_index` is a failed lookup (`none`).  Proved here, for
all inputs: a lookup fails only on an id that has no emitted index (`mapArgs`/`mapCExpr` succeed iff
every entity operand has one); after the GC pass every kept entity has an index in its compaction
map, every kept function one in the function map that the code, export, start and element sections
use, and every referent of a reachable entity is itself kept.  That no lookup then fails is
Props/C02Emit.  What the theorems do not cover is decided on the real code: the harness runs
parse→emit, GC→emit and generated builder/edit sequences under `catch_unwind`, validates every output
with wasmparser under walrus's feature set, and compares the model's failure answer (`none`) with the
code's panic on every case.  `partial`: validity of the output is an oracle fact, not a theorem.
-/
namespace Walrus
namespace C02

/-- operands are rewritten successfully iff every entity operand has an emitted index -/
theorem mapArgs_isSome_iff (m : IdMaps) : ∀ (args : List Arg),
    (mapArgs m args).isSome = true ↔ ∀ sp id, Arg.ref sp id ∈ args → (m.get sp id).isSome = true :=
  fun args => by rw [mapArgs_eq_mapM, mapRef_mapM_isSome_iff]

theorem mapM_isSome_iff {α β : Type} (f : α → Option β) : ∀ (l : List α),
    (l.mapM f).isSome = true ↔ ∀ x ∈ l, (f x).isSome = true :=
  Walrus.mapM_isSome_iff f

/-- a constant expression is emitted iff every entity it mentions has an index -/
theorem mapCExpr_isSome_iff (m : IdMaps) (c : CExprM) :
    (mapCExpr m c).isSome = true ↔
      ∀ op ∈ c, ∀ sp id, Arg.ref sp id ∈ op.args → (m.get sp id).isSome = true :=
  Walrus.mapCExpr_isSome_iff m c

/-- every kept entity of a compacted space has an emitted index; nothing else has one -/
theorem kept_has_index (u : List Ent) (sp : String) (n i : Nat) (hi : i < n) (hu : (sp, i) ∈ u) :
    (assoc (compact (keptOf u sp n)) i).isSome = true :=
  assoc_compact_isSome.2 (mem_keptOf.2 ⟨hi, hu⟩)

theorem dropped_has_no_index (u : List Ent) (sp : String) (n i : Nat) (hu : (sp, i) ∉ u) :
    assoc (compact (keptOf u sp n)) i = none := by
  rw [← Option.not_isSome_iff_eq_none, assoc_compact_isSome, mem_keptOf]
  exact fun h => hu h.2

/-- the function index map the emitter builds (kept imports first, then the emitted local
    functions) has an index for every kept import and every emitted function -/
theorem funcMap_lookup (imp : List Nat) (fs : List OutFunc) (f : Nat)
    (h : f ∈ imp ∨ f ∈ fs.map (·.id)) :
    (assoc (imp.zipIdx.map (fun p => (p.1, p.2)) ++ fs.zipIdx.map (fun p => (p.1.id, imp.length + p.2))) f).isSome = true := by
  rw [assoc_isSome_iff, List.map_append, keys_zipIdx_map id (fun _ => rfl),
    keys_zipIdx_map (fun q : OutFunc => q.id) (fun _ => rfl), List.map_id, List.mem_append]
  exact h

/-- every referent of an entity reachable from the roots is kept (so, with `kept_has_index`, has an
    emitted index); `usedSet_succ` says the same of the residue memory, kept without being reachable -/
theorem referent_of_kept_is_kept (g : GcInfo) (hd : usedFinished g = true) (x y : Ent)
    (hx : Reach (gcSucc g) (gcRoots g).eraseDups x) (hy : y ∈ gcSucc g x) : y ∈ usedSet g :=
  reach_usedSet g hd y (Reach.step x y hx hy)

/-- the place of each emission step in the order the binary format prescribes for non-custom
    sections (type 1 … element 9, data count 12 *before* code 10 and data 11); custom sections (name,
    producers, DWARF, the rest) may stand anywhere: rank 100 -/
def sectionRank (step : String) : Option Nat :=
  if step = "types.emit" then some 1 else if step = "imports.emit" then some 2
  else if step = "funcs.emit_func_section" then some 3 else if step = "tables.emit" then some 4
  else if step = "memories.emit" then some 5 else if step = "globals.emit" then some 6
  else if step = "exports.emit" then some 7 else if step = "start" then some 8
  else if step = "elements.emit" then some 9 else if step = "data.emit_data_count" then some 10
  else if step = "funcs.emit" then some 11 else if step = "data.emit" then some 12
  else if step = "emit_name_section" || step = "producers.emit" || step = "debug.emit" || step = "custom" then some 100
  else none

def strictlyAscending : List Nat → Bool
  | a :: b :: r => a < b && strictlyAscending (b :: r)
  | _ => true

/-- **`emit_wasm` writes the sections in the order the binary format requires**: every step of its
    body is a known section writer, the non-custom sections come in strictly ascending format order
    (each at most once), and the custom sections follow in the order the section model assumes
    (name, producers, DWARF, the module's other custom sections).  `Gen.emitOrder` is regenerated from
    `Module::emit_wasm` on every run. -/
theorem emit_order_is_the_binary_format_order :
    (Gen.emitOrder.mapM sectionRank).map (fun rs => (strictlyAscending (rs.filter (· < 100)), rs.filter (· ≥ 100))) =
      some (true, [100, 100, 100, 100]) ∧
    Gen.emitOrder.drop 12 = ["emit_name_section", "producers.emit", "debug.emit", "custom"] := by decide +kernel

-- non-vacuity: a lookup that fails in the model is a dangling reference
example : mapArgs { funcs := [(0, 0)] } [.ref "f" 1] = none := by decide +kernel
example : mapArgs { funcs := [(0, 0), (1, 1)] } [.ref "f" 1, .num 3] = some [.ref "f" 1, .num 3] := by decide +kernel

end C02
end Walrus
