import Walrus.Proofs.Sections

/-!
# C12 — unknown custom sections survive untouched

Model: `Walrus/Sections.lean`. "Unknown" = the name is not `name`, not `producers` and does not
start with `.debug` (`classify = raw`). Statements hold for every input, every configuration,
and every script of emits and GC runs on one in-memory module.
-/
namespace Walrus
namespace C12

/-- after parsing, the module holds exactly the input's unknown custom sections, in input order -/
theorem parsed_customs (cfg : SCfg) (ver : String) (input : List InC) (m : SMod)
    (h : sparse cfg ver true input = some m) : m.customs = rawIn input := by
  rw [sparse_eq] at h
  cases h
  rfl

/-- every emit of a module that holds unknown custom sections re-emits each of them with identical
    name and payload, exactly once, in the original relative order -/
theorem emit_keeps_customs (m : SMod) (hraw : ∀ c ∈ m.customs, classify c.1 = .raw) :
    rawOut (semit m).1 = m.customs := by
  rw [rawOut_semit, filter_not_debug_of_raw hraw]

theorem rawIn_raw (input : List InC) : ∀ c ∈ rawIn input, classify c.1 = .raw :=
  classify_of_mem_rawIn input

/-- emitting and the GC pass leave the custom sections of the in-memory module alone -/
theorem script_preserves (m : SMod) (script : List SOp) :
    ∀ o ∈ srun m script, rawOut o = rawOut (semit m).1 :=
  fun o ho => congrArg rawOut (srun_eq m script o ho)

/-- **C12.** For every accepted input and every script of emits / GC runs on the parsed module
    (emit, GC+emit, emit twice, …), each produced binary carries exactly the input's unknown custom
    sections: same names, same payloads, same multiplicity, same relative order. -/
theorem customs_survive (cfg : SCfg) (ver : String) (input : List InC) (m : SMod)
    (h : sparse cfg ver true input = some m) (script : List SOp) :
    ∀ o ∈ srun m script, rawOut o = rawIn input := by
  intro o ho
  have hc := parsed_customs cfg ver input m h
  rw [script_preserves m script o ho, emit_keeps_customs m (hc ▸ rawIn_raw input), hc]

/-- every valid input parses, so the hypothesis of `customs_survive` is met by all of them -/
theorem parse_total (cfg : SCfg) (ver : String) (input : List InC) :
    ∃ m, sparse cfg ver true input = some m :=
  ⟨_, sparse_eq cfg ver input⟩

/-- concrete instance: two unknown sections, one with a duplicated name and an empty payload,
    around interpreted ones; emitted twice with a GC in between. -/
example :
    let input : List InC := [⟨"x", "00ff", [], none, false⟩, ⟨"producers", "", [], none, false⟩,
                             ⟨"x", "", [], none, false⟩, ⟨".debug_info", "01", [], none, true⟩]
    (sparse ⟨false, false, false⟩ "0.23.3" true input).map (fun m => (srun m [.emit, .gc, .emit]).map rawOut)
      = some [[("x", "00ff"), ("x", "")], [("x", "00ff"), ("x", "")]] := by decide +kernel

end C12
end Walrus
