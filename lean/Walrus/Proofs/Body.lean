import Walrus.Body
import Walrus.Proofs.Traverse

/-! The `Emit` visitor folded over the in-order walk = structural flattening of the tree, with the
    location of every emitted operator (C15, C03, C11). -/
namespace Walrus

mutual
/-- structural, recursive flattening of the tree view: every emitted operator together with the
    location recorded for it (the instruction's own location; for `end`/`else` the end location of
    the sequence they close) -/
def flattenI (m : IdMaps) (ctx : List Nat) : TI LSeqTy LInstr → Option (List (Nat × Op))
  | .leaf p => (emitPlain m ctx p.1).map fun op => [(p.2, op)]
  | .one p s ty b =>
    match blockTy m ty.1, flattenL m (s :: ctx) b with
    | some bt, some body =>
      (match p.1 with
       | .block _ => some ([(p.2, ⟨"Block", [bt]⟩)] ++ body ++ [(ty.2, ⟨"End", []⟩)])
       | .loop _ => some ([(p.2, ⟨"Loop", [bt]⟩)] ++ body ++ [(ty.2, ⟨"End", []⟩)])
       | _ => none)
    | _, _ => none
  | .two p c cty tc a aty ta =>
    match blockTy m cty.1, flattenL m (c :: ctx) tc, flattenL m (a :: ctx) ta with
    | some bt, some x, some y =>
      (match p.1 with
       | .ifElse _ _ => some ([(p.2, ⟨"If", [bt]⟩)] ++ x ++ [(cty.2, ⟨"Else", []⟩)] ++ y ++ [(aty.2, ⟨"End", []⟩)])
       | _ => none)
    | _, _, _ => none
def flattenL (m : IdMaps) (ctx : List Nat) : TL LSeqTy LInstr → Option (List (Nat × Op))
  | .nil => some []
  | .cons h t =>
    match flattenI m ctx h, flattenL m ctx t with
    | some a, some b => some (a ++ b)
    | _, _ => none
end

/-- the (location, position) pairs of a run of located operators starting at position `base` -/
def marksOf (base : Nat) : List (Nat × Op) → List (Nat × Nat)
  | [] => []
  | (l, _) :: r => (l, base) :: marksOf (base + 1) r

theorem marksOf_append (b : Nat) (x y : List (Nat × Op)) :
    marksOf b (x ++ y) = marksOf b x ++ marksOf (b + x.length) y := by
  induction x generalizing b with
  | nil => simp [marksOf]
  | cons h t ih =>
    obtain ⟨l, o⟩ := h
    simp only [List.cons_append, marksOf, ih, List.length_cons]
    have : b + 1 + t.length = b + (t.length + 1) := by omega
    rw [this]

/-- state after emitting the located operators `ops` -/
def EmitSt.extend (st : EmitSt) (ops : List (Nat × Op)) : EmitSt :=
  { st with out := st.out ++ ops.map (·.2), marks := st.marks ++ marksOf st.out.length ops }

theorem extend_extend (st : EmitSt) (a b : List (Nat × Op)) :
    (st.extend a).extend b = st.extend (a ++ b) := by
  simp [EmitSt.extend, marksOf_append, List.append_assoc]

theorem extend_nil (st : EmitSt) : st.extend [] = st := by
  simp [EmitSt.extend, marksOf]

theorem emitFold_append (m : IdMaps) (st : EmitSt) (a b : List EEv) :
    emitFold m st (a ++ b) = (emitFold m st a).bind (emitFold m · b) := by
  induction a generalizing st with
  | nil => simp [emitFold]
  | cons e r ih =>
    simp only [List.cons_append, emitFold]
    cases emitStep m st e <;> simp [ih]

theorem emitStep_plain (m : IdMaps) (st : EmitSt) (i : BInstr) (loc : Nat) (op : Op)
    (h : emitPlain m st.blocks i = some op) :
    emitStep m st (.instr i loc) = some (st.extend [(loc, op)]) := by
  cases i with
  | block _ | loop _ | ifElse _ _ => simp [emitPlain] at h
  | br _ | brIf _ | brTable _ _ | leaf _ => simp [emitStep, h, EmitSt.extend, marksOf]

/-- the visitor state inside a construct of kind `k` whose sequence is `s` -/
def EmitSt.enter (st : EmitSt) (s : Nat) (k : BlockKind) : EmitSt :=
  { st with blocks := s :: st.blocks, kinds := k :: st.kinds }

theorem enter_extend (st : EmitSt) (s : Nat) (k : BlockKind) (ops : List (Nat × Op)) :
    (st.enter s k).extend ops = (st.extend ops).enter s k := rfl

/-! The visitor's protocol around a construct, in terms of `extend`: the instruction and the start of
    its sequence write the opening operator (the mark is taken at the instruction, the operator
    written at the start), the end of an `if`'s consequent together with the start of the alternative
    writes `else`, every other end of a sequence writes `end`. -/

theorem emitFold_block {m : IdMaps} {st : EmitSt} {x loc s : Nat} {ty : SeqTy} {bt : Arg} {r : List EEv}
    (hbt : blockTy m ty = some bt) :
    emitFold m st (.instr (.block x) loc :: .start s ty :: r) =
      emitFold m ((st.extend [(loc, ⟨"Block", [bt]⟩)]).enter s .block) r := by
  simp [emitFold, emitStep, hbt, EmitSt.extend, EmitSt.enter, marksOf]

theorem emitFold_loop {m : IdMaps} {st : EmitSt} {x loc s : Nat} {ty : SeqTy} {bt : Arg} {r : List EEv}
    (hbt : blockTy m ty = some bt) :
    emitFold m st (.instr (.loop x) loc :: .start s ty :: r) =
      emitFold m ((st.extend [(loc, ⟨"Loop", [bt]⟩)]).enter s .loop) r := by
  simp [emitFold, emitStep, hbt, EmitSt.extend, EmitSt.enter, marksOf]

theorem emitFold_if {m : IdMaps} {st : EmitSt} {x y loc s : Nat} {ty : SeqTy} {bt : Arg} {r : List EEv}
    (hbt : blockTy m ty = some bt) :
    emitFold m st (.instr (.ifElse x y) loc :: .start s ty :: r) =
      emitFold m ((st.extend [(loc, ⟨"If", [bt]⟩)]).enter s .if_) r := by
  simp [emitFold, emitStep, hbt, EmitSt.extend, EmitSt.enter, marksOf]

theorem emitFold_else (m : IdMaps) (st : EmitSt) (c c' loc a : Nat) (ty : SeqTy) (r : List EEv) :
    emitFold m (st.enter c .if_) (.fin c' loc :: .start a ty :: r) =
      emitFold m ((st.extend [(loc, ⟨"Else", []⟩)]).enter a .else_) r := by
  simp [emitFold, emitStep, EmitSt.extend, EmitSt.enter, marksOf]

theorem emitStep_end (m : IdMaps) (st : EmitSt) (s s' loc : Nat) (k : BlockKind) (hk : k ≠ .if_) :
    emitStep m (st.enter s k) (.fin s' loc) = some (st.extend [(loc, ⟨"End", []⟩)]) := by
  cases k with
  | if_ => exact absurd rfl hk
  | block | loop | else_ | entry => simp [emitStep, EmitSt.extend, EmitSt.enter, marksOf]

mutual
theorem emit_I (m : IdMaps) : (i : TI LSeqTy LInstr) → ∀ (st : EmitSt) ops, flattenI m st.blocks i = some ops →
    emitFold m st (evInstr i.toInstr.payload ++ walkKids evStart evInstr evEnd i) = some (st.extend ops)
  | .leaf p, st, ops, h => by
      simp only [flattenI, Option.map_eq_some_iff] at h
      obtain ⟨op, hop, rfl⟩ := h
      simp [walkKids, evInstr, TI.toInstr, emitFold, emitStep_plain m st p.1 p.2 op hop]
  | .one (pi, ploc) s ty b, st, ops, h => by
      simp only [flattenI] at h
      split at h <;> try cases h
      rename_i bt body hbt hb
      have ih := fun k name => emit_L m b ((st.extend [(ploc, ⟨name, [bt]⟩)]).enter s k) body hb
      simp only [walkKids, evInstr, evStart, evEnd, TI.toInstr, List.cons_append, List.nil_append]
      split at h <;> cases h
      · rw [emitFold_block hbt, emitFold_append, ih]
        simp [emitFold, enter_extend, emitStep_end, extend_extend]
      · rw [emitFold_loop hbt, emitFold_append, ih]
        simp [emitFold, enter_extend, emitStep_end, extend_extend]
  | .two (pi, ploc) c cty tc a aty ta, st, ops, h => by
      simp only [flattenI] at h
      split at h <;> try cases h
      rename_i bt x y hbt hx hy
      split at h <;> cases h
      -- the events are `if`, the consequent, `else`, the alternative, `end`; each body runs from the state
      -- the protocol lemmas leave, with its own sequence innermost
      have ih1 := emit_L m tc ((st.extend [(ploc, ⟨"If", [bt]⟩)]).enter c .if_) x hx
      have ih2 := emit_L m ta ((((st.extend [(ploc, ⟨"If", [bt]⟩)]).extend x).extend [(cty.2, ⟨"Else", []⟩)]).enter a .else_) y hy
      simp only [walkKids, evInstr, evStart, evEnd, TI.toInstr, List.cons_append, List.nil_append, List.append_assoc]
      rw [emitFold_if hbt, emitFold_append, ih1]
      simp only [Option.bind_some, enter_extend]
      rw [emitFold_else, emitFold_append, ih2]
      simp [emitFold, enter_extend, emitStep_end, extend_extend]
theorem emit_L (m : IdMaps) : (t : TL LSeqTy LInstr) → ∀ (st : EmitSt) ops, flattenL m st.blocks t = some ops →
    emitFold m st (walkL evStart evInstr evEnd t) = some (st.extend ops)
  | .nil, st, ops, h => by
      simp only [flattenL, Option.some.injEq] at h; subst h
      simp [walkL, emitFold, extend_nil]
  | .cons hd tl, st, ops, h => by
      simp only [flattenL] at h
      split at h <;> cases h
      rename_i a b ha hb
      have i1 := emit_I m hd st a ha
      have i2 := emit_L m tl (st.extend a) b hb
      simp only [walkL]
      rw [emitFold_append, i1]
      simp [i2, extend_extend]
end

/-- emission with an explicit fuel for the traversal: operators and the raw location map -/
def emitBodyFuel (m : IdMaps) (ar : BArena) (fuel entry : Nat) : Option (List Op × List (Nat × Nat)) :=
  let r := bodyEvents ar fuel entry
  if !r.1.isEmpty then none else
  (emitFold m ⟨[], [.entry], [], []⟩ r.2).map fun st => (st.out, st.marks)

theorem emitBodyMarks_eq_fuel (m : IdMaps) (ar : BArena) (entry : Nat) :
    emitBodyMarks m ar entry = emitBodyFuel m ar (arenaFuel ar) entry := rfl

/-- the function-entry sequence is a construct without an opening operator -/
theorem emitFold_walkSeq (m : IdMaps) (entry : Nat) (ty : LSeqTy) (t : TL LSeqTy LInstr) (ops : List (Nat × Op))
    (hf : flattenL m [entry] t = some ops) :
    emitFold m ⟨[], [.entry], [], []⟩ (walkSeq evStart evInstr evEnd entry ty t) =
      some ((EmitSt.mk [] [] [] []).extend (ops ++ [(ty.2, ⟨"End", []⟩)])) := by
  have ih := emit_L m t ((EmitSt.mk [] [] [] []).enter entry .entry) ops hf
  have h0 : emitStep m ⟨[], [.entry], [], []⟩ (.start entry ty.1) = some ((EmitSt.mk [] [] [] []).enter entry .entry) := rfl
  simp only [walkSeq, evStart, evEnd, List.cons_append, List.nil_append, emitFold, h0, Option.bind_some]
  rw [emitFold_append, ih]
  simp [emitFold, enter_extend, emitStep_end, extend_extend]

/-- the emitted body is the in-order flattening of the tree, and the location map pairs every
    emitted operator, in order, with its position; the traversal needs `costL t + 1` iterations -/
theorem emitBody_eq_flatten_steps (m : IdMaps) (ar : BArena) (entry : Nat) (ty : LSeqTy) (t : TL LSeqTy LInstr)
    (he : ar.get? entry = some (ty, t.toList)) (hv : ViewL ar t) (ops : List (Nat × Op))
    (hf : flattenL m [entry] t = some ops) (fuel : Nat) (hfuel : costL t + 1 ≤ fuel) :
    emitBodyFuel m ar fuel entry =
      some ((ops ++ [(ty.2, Op.mk "End" [])]).map (·.2), marksOf 0 (ops ++ [(ty.2, Op.mk "End" [])])) := by
  unfold emitBodyFuel bodyEvents
  rw [dfsInOrder_eq_walk_steps evStart evInstr evEnd ar entry ty t he hv fuel hfuel]
  simp [emitFold_walkSeq m entry ty t ops hf, EmitSt.extend]

theorem emitBody_eq_flatten (m : IdMaps) (ar : BArena) (entry : Nat) (ty : LSeqTy) (t : TL LSeqTy LInstr)
    (he : ar.get? entry = some (ty, t.toList)) (hv : ViewL ar t) (ops : List (Nat × Op))
    (hf : flattenL m [entry] t = some ops) :
    ∃ n, ∀ fuel, n ≤ fuel → emitBodyFuel m ar fuel entry =
      some ((ops ++ [(ty.2, Op.mk "End" [])]).map (·.2), marksOf 0 (ops ++ [(ty.2, Op.mk "End" [])])) :=
  ⟨costL t + 1, emitBody_eq_flatten_steps m ar entry ty t he hv ops hf⟩

theorem emitBody_ops_eq_flatten (m : IdMaps) (ar : BArena) (entry : Nat) (ty : LSeqTy) (t : TL LSeqTy LInstr)
    (he : ar.get? entry = some (ty, t.toList)) (hv : ViewL ar t) (ops : List (Nat × Op))
    (hf : flattenL m [entry] t = some ops) :
    ∃ n, ∀ fuel, n ≤ fuel → (emitBodyFuel m ar fuel entry).map (·.1) = some (ops.map (·.2) ++ [⟨"End", []⟩]) :=
  ⟨costL t + 1, fun fuel h => by rw [emitBody_eq_flatten_steps m ar entry ty t he hv ops hf fuel h]; simp⟩

end Walrus
