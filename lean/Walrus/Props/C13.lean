import Walrus.Proofs.Module

/-!
# C13 — debug names stay attached to the same entities

Model: the names part of `roundTripModule` (`Walrus/Module.lean`): `parse_name_section` through the
parse-time index maps, `emit_name_section` through the emit-time maps and the local map of
`emit_locals`, sorted by index. For every module on which the model's round trip succeeds and
whose output has a name section:
-/
namespace Walrus
namespace C13

/-- the module name is kept; every emitted table / memory / global / element / data name at
    index `i` is the name the input gave to index `i` (these spaces keep their indices); every
    emitted function name at index `j` is the name of an input function that `ρ` sends to `j`, where
    `ρ` also renames the function exports (it is the id → index map of the emission,
    `RoundTrip.exports_renamed`; the statement ties it to the exports only). No name migrates. -/
theorem names_follow_their_entities (m o : ModuleM) (h : roundTripModule m = some o) (no : NamesM)
    (hno : o.names = some no) :
    ∃ n, m.names = some n ∧ no.module = n.module ∧
      (∀ p ∈ no.tables, lastName n.tables p.1 = some p.2) ∧
      (∀ p ∈ no.mems, lastName n.mems p.1 = some p.2) ∧
      (∀ p ∈ no.globals, lastName n.globals p.1 = some p.2) ∧
      (∀ p ∈ no.elems, lastName n.elems p.1 = some p.2) ∧
      (∀ p ∈ no.datas, lastName n.datas p.1 = some p.2) ∧
      ∃ ρ : List (Nat × Nat),
        (∀ p ∈ no.funcs, ∃ i, lastName n.funcs i = some p.2 ∧ assoc ρ i = some p.1) ∧
        (∀ (k : Nat) (e : String × String × Nat), m.exports[k]? = some e → e.2.1 = "f" →
          ∃ e' : String × String × Nat, o.exports[k]? = some e' ∧ assoc ρ e.2.2 = some e'.2.2) := by
  obtain ⟨pfs, oc, rt⟩ := roundTripModule_some m o h
  obtain ⟨n, hn, rfl⟩ := rt.names_some no hno
  exact ⟨n, hn, rfl, fun _ => mem_keepNames.1, fun _ => mem_keepNames.1, fun _ => mem_keepNames.1,
    fun _ => mem_keepNames.1, fun _ => mem_keepNames.1, _, fun p => (mem_funcNamesOut _ _ p).1,
    rt.exports_renamed⟩

/-- **no name is lost**: every table / memory / global / element / data index the input names
    carries its (last) name in the output, and every named function that has an output index under
    `ρ`, the map that renames the function exports, carries its name at that index -/
theorem no_name_is_lost (m o : ModuleM) (h : roundTripModule m = some o) (no : NamesM)
    (hno : o.names = some no) :
    ∃ n, m.names = some n ∧
      (∀ i s, lastName n.tables i = some s → (i, s) ∈ no.tables) ∧
      (∀ i s, lastName n.mems i = some s → (i, s) ∈ no.mems) ∧
      (∀ i s, lastName n.globals i = some s → (i, s) ∈ no.globals) ∧
      (∀ i s, lastName n.elems i = some s → (i, s) ∈ no.elems) ∧
      (∀ i s, lastName n.datas i = some s → (i, s) ∈ no.datas) ∧
      ∃ ρ : List (Nat × Nat),
        (∀ i j s, lastName n.funcs i = some s → assoc ρ i = some j → (j, s) ∈ no.funcs) ∧
        (∀ (k : Nat) (e : String × String × Nat), m.exports[k]? = some e → e.2.1 = "f" →
          ∃ e' : String × String × Nat, o.exports[k]? = some e' ∧ assoc ρ e.2.2 = some e'.2.2) := by
  obtain ⟨pfs, oc, rt⟩ := roundTripModule_some m o h
  obtain ⟨n, hn, rfl⟩ := rt.names_some no hno
  exact ⟨n, hn, fun _ _ hs => mem_keepNames.2 hs, fun _ _ hs => mem_keepNames.2 hs,
    fun _ _ hs => mem_keepNames.2 hs, fun _ _ hs => mem_keepNames.2 hs,
    fun _ _ hs => mem_keepNames.2 hs, _, fun i j s hs hj => (mem_funcNamesOut _ _ (j, s)).2 ⟨i, hs, hj⟩,
    rt.exports_renamed⟩

/-- **type names follow signatures**: a name the output gives to type index `j` was given by the
    input to a type index with the very same signature (types are de-duplicated and sorted; the
    last name given to any of the merged indices wins) -/
theorem type_names_stay_with_their_signature (m o : ModuleM) (h : roundTripModule m = some o) (no : NamesM)
    (hno : o.names = some no) :
    ∃ n, m.names = some n ∧
      ∀ p ∈ no.types, ∃ i sg, (i, p.2) ∈ n.types ∧ m.sigs[i]? = some sg ∧ o.sigs[p.1]? = some sg := by
  obtain ⟨pfs, oc, rt⟩ := roundTripModule_some m o h
  obtain ⟨n, hn, rfl⟩ := rt.names_some no hno
  refine ⟨n, hn, fun p hp => ?_⟩
  obtain ⟨i, tid, hi, htid, hj⟩ := typeNamesOut_sound _ _ n.types p hp
  obtain ⟨sg, h1, h2⟩ := type_index_keeps_signature m.sigs i p.1 (by rw [htid, Option.bind_some]; exact hj)
  exact ⟨i, sg, hi, h1, rt.sigs_eq ▸ h2⟩

/-- **local names follow their locals**: a name the output gives to slot `slot` of function `fj` is
    a name the input gave to a local of the function that is emitted at `fj`, and `slot` is the
    image of that local under the same local map the function's body was emitted with -/
theorem local_names_stay_with_their_local (m o : ModuleM) (h : roundTripModule m = some o) (no : NamesM)
    (hno : o.names = some no) :
    ∃ n pfs oc, m.names = some n ∧
      parseCode ⟨m.sigs, importedCount m "f", m.code.zip m.funcs |>.map fun p => ⟨p.2, p.1.1, p.1.2⟩⟩ = some pfs ∧
      emitCode ⟨m.sigs, importedCount m "f", m.code.zip m.funcs |>.map fun p => ⟨p.2, p.1.1, p.1.2⟩⟩ pfs = some oc ∧
      ∀ q ∈ no.locals, ∀ r ∈ q.2, ∃ (f : OutFunc) (pf : ParsedFunc) (li lid : Nat) (ty : String),
        f ∈ oc.funcs ∧ pfs[f.id - importedCount m "f"]? = some pf ∧
        pf.localTys[li]? = some (lid, ty) ∧
        (li, r.2) ∈ (n.locals.filter (·.1 = f.id)).flatMap (·.2) ∧
        assoc f.localMap lid = some r.1 ∧
        assoc ((List.range (importedCount m "f")).map (fun i => (i, i)) ++
          oc.funcs.zipIdx.map (fun p => (p.1.id, importedCount m "f" + p.2))) f.id = some q.1 := by
  obtain ⟨pfs, oc, rt⟩ := roundTripModule_some m o h
  obtain ⟨n, hn, rfl⟩ := rt.names_some no hno
  exact ⟨n, pfs, oc, hn, rt.parsed, rt.emitted, localNamesOut_sound _ pfs oc.funcs _ n.locals⟩

/-- worked instance: two functions swapped by the size sort, their names swap with them; the name
    of the (used) second local follows it to its new slot -/
def sample : ModuleM :=
  { sigs := [([], [])],
    funcs := [0, 0],
    code := [([], [(⟨"End", []⟩, 0)]),
             ([(1, "i64"), (1, "i32")], [(⟨"LocalGet", [.ref "x" 1]⟩, 0), (⟨"Drop", []⟩, 0), (⟨"End", []⟩, 0)])],
    names := some { module := some "m", funcs := [(0, "small"), (1, "big")],
                    locals := [(1, [(0, "unused"), (1, "used")])] } }

example : (roundTripModule sample).map (·.names) =
    some (some { module := some "m", funcs := [(0, "big"), (1, "small")], locals := [(0, [(0, "used")])] }) := by
  decide +kernel

/-- a function named twice keeps its last name; the written map has one entry per index -/
example : (roundTripModule { sample with names := some { funcs := [(0, "a"), (0, "b"), (1, "c")] } }).map (·.names) =
    some (some { funcs := [(0, "c"), (1, "b")] }) := by
  decide +kernel

/-- **several name sections**: the later section's name for an entity wins, and an entity the later
    section does not name keeps the name the earlier section gave it (in each of the seven index
    spaces with a plain name map; `mergeNames` appends field by field) -/
theorem later_name_section_wins (a b : NamesM) (i : Nat) :
    lastName (mergeNames a b).globals i = (lastName b.globals i).or (lastName a.globals i) ∧
    lastName (mergeNames a b).funcs i = (lastName b.funcs i).or (lastName a.funcs i) ∧
    lastName (mergeNames a b).tables i = (lastName b.tables i).or (lastName a.tables i) ∧
    lastName (mergeNames a b).mems i = (lastName b.mems i).or (lastName a.mems i) ∧
    lastName (mergeNames a b).elems i = (lastName b.elems i).or (lastName a.elems i) ∧
    lastName (mergeNames a b).datas i = (lastName b.datas i).or (lastName a.datas i) ∧
    lastName (mergeNames a b).types i = (lastName b.types i).or (lastName a.types i) := by
  simp [mergeNames, lastName_append]

/-- a reader that gives up does so for its own section only: whatever the first section contains
    (also a local-name entry for a missing function), the second section's names are applied as if it
    stood alone (stated for global names; the other index spaces are the same field-wise append) -/
theorem giving_up_is_per_section (nF : Nat) (s1 s2 : NamesM) (i : Nat) (x : String)
    (h : lastName (appliedNames nF s2).globals i = some x) :
    lastName (appliedNameSections nF [s1, s2]).globals i = some x := by
  simp [appliedNameSections, mergeNames, lastName_append, h]

/-- **one name per function index**: the function-name map that is written never has two entries
    for one function index — two named functions of the input never land on the same index (the
    id → index map of the emission is injective), and a function named several times keeps its
    last name only. A name map with a repeated index would be malformed. -/
theorem function_name_map_has_one_entry_per_index (m o : ModuleM) (h : roundTripModule m = some o)
    (no : NamesM) (hno : o.names = some no) : (no.funcs.map (·.1)).Nodup := by
  obtain ⟨pfs, oc, rt⟩ := roundTripModule_some m o h
  obtain ⟨n, _, rfl⟩ := rt.names_some no hno
  exact funcNamesOut_nodup n.funcs _ (funcMap_injective (fun f : OutFunc => f.id) _ oc.funcs)

/-- … and so have the table, memory, global, element-segment and data-segment name maps -/
theorem other_name_maps_have_one_entry_per_index (m o : ModuleM) (h : roundTripModule m = some o)
    (no : NamesM) (hno : o.names = some no) :
    (no.tables.map (·.1)).Nodup ∧ (no.mems.map (·.1)).Nodup ∧ (no.globals.map (·.1)).Nodup ∧
    (no.elems.map (·.1)).Nodup ∧ (no.datas.map (·.1)).Nodup := by
  obtain ⟨pfs, oc, rt⟩ := roundTripModule_some m o h
  obtain ⟨n, _, rfl⟩ := rt.names_some no hno
  exact ⟨keepNames_nodup _, keepNames_nodup _, keepNames_nodup _, keepNames_nodup _, keepNames_nodup _⟩

/-- one section alone: exactly `appliedNames` -/
theorem single_section (nF : Nat) (s : NamesM) : appliedNameSections nF [s] = appliedNames nF s :=
  mergeNames_empty _

end C13
end Walrus
