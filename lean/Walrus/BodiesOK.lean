import Walrus.SourceTree
import Walrus.CodeMaps
import Walrus.Gc
import Walrus.Agree

/-
The hypothesis of the emission-totality theorems (`BodiesWF`, Proofs/CodeEmit.lean) in decidable
form, so that the driver can evaluate it on every case: the flat operator list of each function is
read back into a source tree (`unflat`), which must flatten to the list it came from, be
well-formed and clean, and parse in tree terms.
-/
namespace Walrus

/-- an open construct while reading a flat body: its opening operator and what came before it -/
inductive UFrame
  | blk (o : Op) (loc : Nat) (before : List PI)
  | ifThen (o : Op) (loc : Nat) (before : List PI)
  | ifElse (o : Op) (loc : Nat) (thenB : List PI) (elseLoc : Nat) (before : List PI)

def plOf : List PI → PL
  | [] => .nil
  | h :: t => .cons h (plOf t)

/-- reads a flat body `… end` into its tree and the location of the final `end`; `cur` holds the
    instructions of the innermost open sequence, newest first -/
def unflatGo : List (Op × Nat) → List UFrame → List PI → Option (PL × Nat)
  | [], _, _ => none
  | (o, loc) :: r, st, cur =>
    if o.name = "Block" || o.name = "Loop" then unflatGo r (.blk o loc cur :: st) []
    else if o.name = "If" then unflatGo r (.ifThen o loc cur :: st) []
    else if o.name = "Else" then
      match st with
      | .ifThen o' loc' before :: st' => unflatGo r (.ifElse o' loc' cur.reverse loc before :: st') []
      | _ => none
    else if o.name = "End" then
      match st with
      | [] => if r.isEmpty then some (plOf cur.reverse, loc) else none
      | .blk o' loc' before :: st' => unflatGo r st' (.blk o' loc' (plOf cur.reverse) loc :: before)
      | .ifThen o' loc' before :: st' => unflatGo r st' (.if1 o' loc' (plOf cur.reverse) loc :: before)
      | .ifElse o' loc' tb elseLoc before :: st' =>
        unflatGo r st' (.if2 o' loc' (plOf tb) elseLoc (plOf cur.reverse) loc :: before)
    else unflatGo r st (.op o loc :: cur)

def unflat (ops : List (Op × Nat)) : Option (PL × Nat) := unflatGo ops [] []

def opCleanB (o : Op) : Bool :=
  (!(o.name = "Return" || o.name = "Unreachable") || o.args.isEmpty) &&
  (o.args.all (fun a => match a with | .ref "l" _ => false | _ => true) ||
    (o.name = "Br" || o.name = "BrIf" || o.name = "BrTable")) &&
  o.args.all (fun a => match a with | .ref sp _ => entSpaces.contains sp | _ => true)

mutual
def PI.wfB : PI → Bool
  | .op o _ => !isStructural o.name
  | .blk o _ b _ => (o.name = "Block" || o.name = "Loop") && b.wfB
  | .if1 o _ t _ => o.name = "If" && t.wfB
  | .if2 o _ t _ e _ => o.name = "If" && t.wfB && e.wfB
def PL.wfB : PL → Bool
  | .nil => true
  | .cons h t => h.wfB && t.wfB
end

mutual
def PI.cleanB : PI → Bool
  | .op o _ => opCleanB o
  | .blk _ _ b _ => b.cleanB
  | .if1 _ _ t _ => t.cleanB
  | .if2 _ _ t _ e _ => t.cleanB && e.cleanB
def PL.cleanB : PL → Bool
  | .nil => true
  | .cons h t => h.cleanB && t.cleanB
end

/-- one function body, against the environment it was parsed in -/
def bodyOK (e : PEnv) (ops : List (Op × Nat)) : Bool :=
  match unflat ops with
  | none => false
  | some (body, endLoc) =>
    decide (ops = body.flat ++ [(opEnd, endLoc)]) && body.wfB && body.cleanB && (expL e [0] 1 false body).isSome

/-- the shape of one function body alone: well-nested, immediates where the format has them -/
def shapeOK (ops : List (Op × Nat)) : Bool :=
  match unflat ops with
  | none => false
  | some (body, endLoc) => decide (ops = body.flat ++ [(opEnd, endLoc)]) && body.wfB && body.cleanB

/-- every function body of the module has that shape (a condition on the input alone) -/
def shapesOK (m : ModuleM) : Bool := m.code.all fun c => shapeOK c.2

/-- every function body of the module is well-nested, clean and parses in tree terms -/
def bodiesOK (m : ModuleM) (g : GcInfo) : Bool :=
  (List.range g.pfs.length).all fun k =>
    match m.code[k]?, g.pfs[k]? with
    | some (_, ops), some pf =>
      bodyOK { funcs := List.range (g.nif + (m.code.zip m.funcs).length), types := dedupIds m.sigs,
               locals := pf.localTys.map (·.1), sigs := m.sigs } ops
    | _, _ => true

/-! the shape of the other sections (`SectionsWF`, Proofs/SectionsEmit.lean), in decidable form -/

def cexprOK (c : CExprM) : Bool :=
  c.all fun op => op.args.all fun a => match a with | .ref sp _ => sp = "g" || sp = "f" | _ => true

def offsetOK (c : CExprM) : Bool :=
  c.all fun op => op.args.all fun a => match a with | .ref sp _ => sp = "g" | _ => true

def sectionsOK (m : ModuleM) : Bool :=
  m.exports.all (fun e => e.2.1 != "y") &&
  m.globals.all (fun gl => cexprOK gl.2) &&
  m.datas.all (fun d => match d.mode with | .active _ off => offsetOK off | _ => true) &&
  m.elems.all (fun e => match e.mode with | .active _ off => offsetOK off | _ => true) &&
  m.elems.all (fun e => match e.items with | .exprs _ es => es.all cexprOK | _ => true) &&
  m.imports.all (fun i => match i.2.2 with | .func t => decide (t < m.sigs.length) | _ => true)

/-- function references outside the code section are in range (what validation guarantees) -/
def cexprFuncsBelow (n : Nat) (c : CExprM) : Bool :=
  c.all fun op => op.args.all fun a => match a with | .ref "f" k => decide (k < n) | _ => true

def funcRefsOK (m : ModuleM) : Bool :=
  let n := importedCount m "f" + m.funcs.length
  m.exports.all (fun e => e.2.1 != "f" || decide (e.2.2 < n)) &&
  (match m.start with | some s => decide (s < n) | none => true) &&
  m.globals.all (fun gl => cexprFuncsBelow n gl.2) &&
  m.datas.all (fun d => match d.mode with | .active _ off => cexprFuncsBelow n off | _ => true) &&
  m.elems.all (fun e => match e.mode with | .active _ off => cexprFuncsBelow n off | _ => true) &&
  m.elems.all (fun e => match e.items with
    | .funcs fs => fs.all (fun f => decide (f < n))
    | .exprs _ es => es.all (cexprFuncsBelow n))

/-- every function body of a code slice, against the environment `parseCode` gave it -/
def bodiesOKc (m : ModuleM) (pfs : List ParsedFunc) : Bool :=
  (List.range pfs.length).all fun k =>
    match m.code[k]?, pfs[k]? with
    | some (_, ops), some pf =>
      bodyOK { funcs := List.range (importedCount m "f" + (m.code.zip m.funcs).length), types := dedupIds m.sigs,
               locals := pf.localTys.map (·.1), sigs := m.sigs } ops
    | _, _ => true

/-! the operand shape of operators (`OpShape`, Proofs/AgreeMaps.lean), in decidable form -/

/-- index spaces in which ids are indices on both sides of a round trip without a pass -/
def idSpace (sp : String) : Bool := sp = "t" || sp = "g" || sp = "m" || sp = "d" || sp = "e"

def argIs (sp : String) (a : Arg) : Bool := match a with | .ref s _ => s == sp | _ => false

def opShapedB (o : Op) : Bool :=
  if o.name = "Nop" then true
  else if o.name = "Br" || o.name = "BrIf" then (match o.args with | [a] => argIs "l" a | _ => false)
  else if o.name = "BrTable" then (!o.args.isEmpty) && o.args.all (argIs "l")
  else if o.name = "Return" || o.name = "Unreachable" then o.args.isEmpty
  else if o.name = "Call" || o.name = "RefFunc" || o.name = "ReturnCall" then
    (match o.args with | [a] => argIs "f" a | _ => false)
  else if o.name = "CallIndirect" || o.name = "ReturnCallIndirect" then
    (match o.args with | [a, b] => argIs "y" a && argIs "t" b | _ => false)
  else if o.name = "LocalGet" || o.name = "LocalSet" || o.name = "LocalTee" then
    (match o.args with | [a] => argIs "x" a | _ => false)
  else o.args.all (fun a => match a with | .ref sp _ => idSpace sp | _ => true) && (wrapOffsets o.args == o.args)

mutual
def PI.shapedB : PI → Bool
  | .op o _ => opShapedB o
  | .blk _ _ b _ => b.shapedB
  | .if1 _ _ t _ => t.shapedB
  | .if2 _ _ t _ e _ => t.shapedB && e.shapedB
def PL.shapedB : PL → Bool
  | .nil => true
  | .cons h t => h.shapedB && t.shapedB
end

-- the part of a source tree that survives: what follows an unconditional transfer in its sequence is
-- dropped (nothing is asked of dead code: it is never emitted)
mutual
def PI.live : PI → PI
  | .op o loc => .op o loc
  | .blk o loc b el => .blk o loc b.live el
  | .if1 o loc t el => .if1 o loc t.live el
  | .if2 o loc t l2 e el => .if2 o loc t.live l2 e.live el
def PL.live : PL → PL
  | .nil => .nil
  | .cons (.op o loc) t => if transfers o.name then .cons (.op o loc) .nil else .cons (.op o loc) t.live
  | .cons (.blk o loc b el) t => .cons (.blk o loc b.live el) t.live
  | .cons (.if1 o loc b el) t => .cons (.if1 o loc b.live el) t.live
  | .cons (.if2 o loc b l2 e el) t => .cons (.if2 o loc b.live l2 e.live el) t.live
end

/-- the live operators of the flat body of a function have the decoder's operand shapes -/
def flatShapedB (ops : List (Op × Nat)) : Bool :=
  match unflat ops with
  | some (body, _) => body.live.shapedB
  | none => false

end Walrus
