import Walrus.Proofs.Gc

/-!
The worklist of the GC pass terminates, and the fuel the model gives it is enough (C06, C07, C02):
for every module whose references stay inside a finite universe `U` (roots in `U`, successors of
members of `U` in `U` — what validation guarantees), the loop empties its stack after at most
`|U|` iterations, because every iteration moves one new entity into the visited set and nothing is
ever pushed twice.
-/
namespace Walrus

/-- the invariant of the termination proof: the stack and the visited set never share an element and
    never repeat one.  The old stack and visited set are permuted, what is pushed is new. -/
theorem nodup_step (succ : Ent → List Ent) (x : Ent) (todo visited : List Ent)
    (h : ((x :: todo) ++ visited).Nodup) :
    ((((succ x).filter fun y => !(visited.contains y) && !(todo.contains y) && y != x).eraseDups ++ todo) ++
      (visited ++ [x])).Nodup := by
  rw [List.append_assoc, List.nodup_append]
  refine ⟨eraseDups_nodup _, ?_, fun a ha b hb e => ?_⟩
  · rw [← List.append_assoc]
    exact (List.perm_append_singleton x _).nodup_iff.2 h
  · subst e
    obtain ⟨hv, ht, hx⟩ : a ∉ visited ∧ a ∉ todo ∧ a ≠ x := by
      simpa [and_assoc] using (List.mem_filter.1 (List.mem_eraseDups.1 ha)).2
    simp only [List.mem_append, List.mem_singleton] at hb
    exact hb.elim ht fun hb => hb.elim hv hx

/-- inside a universe closed under the successor relation the worklist is empty after
    `|U| − |visited|` iterations -/
theorem closureSt_finishes (succ : Ent → List Ent) (U : List Ent) (hs : ∀ x ∈ U, ∀ y ∈ succ x, y ∈ U) :
    ∀ (fuel : Nat) (todo visited : List Ent), (todo ++ visited).Nodup → (∀ x ∈ todo ++ visited, x ∈ U) →
      U.length ≤ fuel + visited.length → (closureSt succ fuel todo visited).1 = []
  | 0, todo, visited, hn, hu, hl => by
    have := List.Nodup.length_le_of_subset hn hu
    simp only [List.length_append] at this
    exact (List.eq_nil_of_length_eq_zero (by omega) : todo = [])
  | fuel+1, [], visited, _, _, _ => by simp [closureSt]
  | fuel+1, x :: todo, visited, hn, hu, hl => by
    have hx : x ∉ visited := by
      simp only [List.cons_append, List.nodup_cons, List.mem_append, not_or] at hn
      exact hn.1.2
    have hc : visited.contains x = false := by simpa using hx
    simp only [closureSt, hc, Bool.false_eq_true, if_false]
    apply closureSt_finishes succ U hs fuel
    · exact nodup_step succ x todo visited hn
    · intro z hz
      have hxU : x ∈ U := hu x (by simp)
      simp only [List.mem_append, List.mem_singleton] at hz
      rcases hz with (hz | hz) | hz | rfl
      · exact hs x hxU z (List.mem_filter.1 (List.mem_eraseDups.1 hz)).1
      · exact hu z (by simp [hz])
      · exact hu z (by simp [hz])
      · exact hxU
    · simp only [List.length_append, List.length_cons, List.length_nil]
      omega

theorem usedFinished_of_closed (g : GcInfo) (U : List Ent)
    (hr : ∀ x ∈ gcRoots g, x ∈ U) (hs : ∀ x ∈ U, ∀ y ∈ gcSucc g x, y ∈ U)
    (hl : U.length ≤ universeSize g * universeSize g + 16) : usedFinished g = true := by
  unfold usedFinished
  rw [closureSt_finishes (gcSucc g) U hs _ (gcRoots g).eraseDups [] (by simpa using eraseDups_nodup _)
    (by intro x hx; simp only [List.append_nil] at hx; exact hr x (List.mem_eraseDups.1 hx)) (by simpa using hl)]
  rfl

theorem distinctSigs_length_le (sigs : List Sig) : (distinctSigs sigs).length ≤ sigs.length := by
  simpa [distinctSigs] using length_foldl_distinct_le sigs []

theorem entUniverse_length_le (g : GcInfo) : (entUniverse g).length ≤ universeSize g * universeSize g + 16 := by
  have h1 := distinctSigs_length_le g.m.sigs
  have h2 : (entUniverse g).length ≤ universeSize g := by
    simp only [entUniverse, universeSize, List.length_append, List.length_map, List.length_range]
    omega
  exact Nat.le_trans h2 (Nat.le_trans (Nat.le_mul_self _) (Nat.le_add_right _ _))

theorem gcWF_iff (g : GcInfo) : gcWF g = true ↔
    (∀ x ∈ gcRoots g, x ∈ entUniverse g) ∧ ∀ x ∈ entUniverse g, ∀ y ∈ gcSucc g x, y ∈ entUniverse g := by
  simp only [gcWF, Bool.and_eq_true, List.all_eq_true, List.contains_eq_mem, decide_eq_true_eq]

/-- the theorems that assume `usedFinished` thus hold for every module whose references are in range -/
theorem gcWF_finishes (g : GcInfo) (h : gcWF g = true) : usedFinished g = true :=
  usedFinished_of_closed g (entUniverse g) ((gcWF_iff g).1 h).1 ((gcWF_iff g).1 h).2 (entUniverse_length_le g)

end Walrus
