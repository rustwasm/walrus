import Walrus.Parse

/-
The specification side of the parse (C03, C01): source trees of well-nested function bodies (`PI`/`PL`,
the operators with their locations), their flattening to the operator stream the decoder yields,
the shape decoding and validation guarantee (`WF`, `Clean`), and the recursive description
`expI`/`expL` of what `LocalFunction::parse` builds for a tree: which instructions are appended to
the current sequence, which sequences are created (in allocation order), whether the frame ends
unreachable. Elision of `nop`s and of everything after an unconditional transfer, the ids burnt by
constructs in dead code and label → sequence-id resolution are all in `leafEffect`/`expI`/`expL`.
That the control stack of Walrus/Parse.lean computes exactly this is Proofs/ParseTree.lean.
-/
namespace Walrus

mutual
inductive PI where
  | op (o : Op) (loc : Nat)
  | blk (o : Op) (loc : Nat) (b : PL) (endLoc : Nat)                 -- `block` or `loop`, by `o.name`
  | if1 (o : Op) (loc : Nat) (t : PL) (endLoc : Nat)                  -- `if … end`
  | if2 (o : Op) (loc : Nat) (t : PL) (elseLoc : Nat) (e : PL) (endLoc : Nat)
inductive PL where
  | nil
  | cons (h : PI) (t : PL)
end

def opEnd : Op := ⟨"End", []⟩
def opElse : Op := ⟨"Else", []⟩

mutual
def PI.flat : PI → List (Op × Nat)
  | .op o loc => [(o, loc)]
  | .blk o loc b endLoc => (o, loc) :: (b.flat ++ [(opEnd, endLoc)])
  | .if1 o loc t endLoc => (o, loc) :: (t.flat ++ [(opEnd, endLoc)])
  | .if2 o loc t elseLoc e endLoc => (o, loc) :: (t.flat ++ (opElse, elseLoc) :: (e.flat ++ [(opEnd, endLoc)]))
def PL.flat : PL → List (Op × Nat)
  | .nil => []
  | .cons h t => h.flat ++ t.flat
end

def isStructural (n : String) : Bool :=
  n = "Block" || n = "Loop" || n = "If" || n = "Else" || n = "End"

-- operator names are what the constructors say
mutual
def PI.WF : PI → Prop
  | .op o _ => isStructural o.name = false
  | .blk o _ b _ => (o.name = "Block" ∨ o.name = "Loop") ∧ b.WF
  | .if1 o _ t _ => o.name = "If" ∧ t.WF
  | .if2 o _ t _ e _ => o.name = "If" ∧ t.WF ∧ e.WF
def PL.WF : PL → Prop
  | .nil => True
  | .cons h t => h.WF ∧ t.WF
end

def entSpaces : List String := ["f", "t", "g", "m", "y", "x", "d", "e", "l"]

/-- what the decoder guarantees about one operator and the model does not check: `return` and
    `unreachable` carry no immediates, only the three branch operators carry labels, and an operand
    names one of the nine index spaces -/
def opClean (o : Op) : Prop :=
  ((o.name = "Return" ∨ o.name = "Unreachable") → o.args = []) ∧
  (∀ n, Arg.ref "l" n ∈ o.args → o.name = "Br" ∨ o.name = "BrIf" ∨ o.name = "BrTable") ∧
  (∀ sp n, Arg.ref sp n ∈ o.args → sp ∈ entSpaces)

mutual
def PI.Clean : PI → Prop
  | .op o _ => opClean o
  | .blk _ _ b _ => b.Clean
  | .if1 _ _ t _ => t.Clean
  | .if2 _ _ t _ e _ => t.Clean ∧ e.Clean
def PL.Clean : PL → Prop
  | .nil => True
  | .cons h t => h.Clean ∧ t.Clean
end

/-- what a non-structural operator does to the current frame: the instruction it appends (if the
    frame is reachable) and the new unreachable flag; `ids` = sequence ids of the enclosing frames,
    innermost first -/
def leafEffect (e : PEnv) (ids : List Nat) (unr : Bool) (o : Op) (loc : Nat) : Option (List (BInstr × Nat) × Bool) :=
  let emit := fun (i : BInstr) => if unr then [] else [(i, loc)]
  if o.name = "Br" then
    match labelsOf o with
    | [n] => (ids[n]?).map fun b => (emit (.br b), true)
    | _ => none
  else if o.name = "BrIf" then
    match labelsOf o with
    | [n] => (ids[n]?).map fun b => (emit (.brIf b), unr)
    | _ => none
  else if o.name = "BrTable" then
    match (labelsOf o).reverse with
    | d :: ts =>
      match ids[d]?, ts.reverse.mapM (fun n => ids[n]?) with
      | some dd, some tts => some (emit (.brTable tts dd), true)
      | _, _ => none
    | [] => none
  else if o.name = "Return" || o.name = "Unreachable" then some (emit (.leaf o), true)
  else if o.name = "Nop" then some ([], unr)
  else (pMapArgs e (wrapOffsets o.args)).map fun a => (emit (.leaf ⟨o.name, a⟩), unr)

mutual
def expI (e : PEnv) (ids : List Nat) (next : Nat) (unr : Bool) : PI → Option (List (BInstr × Nat) × List PSeq × Bool)
  | .op o loc => (leafEffect e ids unr o loc).map fun r => (r.1, [], r.2)
  | .blk o loc b endLoc =>
    match (btOf o).bind (seqTyOfBt e) with
    | none => none
    | some ty =>
      match expL e (next :: ids) (next + 1) false b with
      | none => none
      | some (bi, bc, _) =>
        some (if unr then [] else [((if o.name = "Block" then BInstr.block next else BInstr.loop next), loc)],
              ⟨ty, bi, endLoc⟩ :: bc, unr)
  | .if1 o loc t endLoc =>
    match (btOf o).bind (seqTyOfBt e) with
    | none => none
    | some ty =>
      match expL e (next :: ids) (next + 1) false t with
      | none => none
      | some (ti, tc, _) =>
        let alt := next + 1 + tc.length
        some (if unr then [] else [(BInstr.ifElse next alt, loc)],
              ⟨ty, ti, endLoc⟩ :: (tc ++ [⟨ty, [], defaultLoc⟩]), unr)
  | .if2 o loc t elseLoc el endLoc =>
    match (btOf o).bind (seqTyOfBt e) with
    | none => none
    | some ty =>
      match expL e (next :: ids) (next + 1) false t with
      | none => none
      | some (ti, tc, _) =>
        let alt := next + 1 + tc.length
        match expL e (alt :: ids) (alt + 1) false el with
        | none => none
        | some (ei, ec, _) =>
          some (if unr then [] else [(BInstr.ifElse next alt, loc)],
                ⟨ty, ti, elseLoc⟩ :: (tc ++ ⟨ty, ei, endLoc⟩ :: ec), unr)
def expL (e : PEnv) (ids : List Nat) (next : Nat) (unr : Bool) : PL → Option (List (BInstr × Nat) × List PSeq × Bool)
  | .nil => some ([], [], unr)
  | .cons h t =>
    match expI e ids next unr h with
    | none => none
    | some (i1, c1, u1) =>
      match expL e ids (next + c1.length) u1 t with
      | none => none
      | some (i2, c2, u2) => some (i1 ++ i2, c1 ++ c2, u2)
end

end Walrus
