import Walrus.Proofs.ParseTree

/-!
The converse of the C03 parse theorem.  On a well-nested body parse and description are equal as
`Option` values (`buildBody_flat`, Proofs/ParseTree), so "the parse succeeded" is "`expL` answers"
(`expL_of_buildBody`) and the C03/C02 theorems need no hypothesis beyond the shape of the source.
`prunNone_I` states the failing direction for one construct in the middle of a stream: when `expI` fails
on it, so does `LocalFunction::parse` on its flattening, whatever follows.
-/
namespace Walrus

theorem prun_none_bind (e : PEnv) (st : PSt) (a b : List (Op × Nat)) (h : prun e st a = none) :
    prun e st (a ++ b) = none := by
  rw [prun_append, h]; rfl

/-- the arena split around the current sequence `cur` (whose id is `pre.length`), the current frame on
    top of `rest`: the shape of state `prunNone_I` is stated for -/
def mkSt (pre : List PSeq) (cur : PSeq) (post : List PSeq) (unr : Bool) (kind : BlockKind) (ty : SeqTy)
    (rest : List PFrame) (ie : List IfSt) : PSt :=
  ⟨pre ++ cur :: post, ⟨pre.length, unr, kind, ty⟩ :: rest, ie⟩

def idsOf (pre : List PSeq) (rest : List PFrame) : List Nat := pre.length :: rest.map (·.seq)

theorem mkSt_length (pre : List PSeq) (cur : PSeq) (post : List PSeq) (unr : Bool) (kind : BlockKind) (ty : SeqTy)
    (rest : List PFrame) (ie : List IfSt) :
    (mkSt pre cur post unr kind ty rest ie).seqs.length = pre.length + 1 + post.length := by
  simp [mkSt]; omega

theorem split_assoc (pre0 : List PSeq) (cur0 : PSeq) (post0 : List PSeq) (x : PSeq) (post : List PSeq) :
    (pre0 ++ cur0 :: post0) ++ x :: post = pre0 ++ cur0 :: (post0 ++ x :: post) := by simp

theorem prunNone_I (e : PEnv) : (i : PI) → i.WF → ∀ (pre : List PSeq) (cur : PSeq) (post : List PSeq) (unr : Bool)
    (kind : BlockKind) (ty : SeqTy) (rest : List PFrame) (ie : List IfSt),
    expI e (idsOf pre rest) (pre.length + 1 + post.length) unr i = none →
    ∀ tail, prun e (mkSt pre cur post unr kind ty rest ie) (i.flat ++ tail) = none := by
  intro i hw pre cur post unr kind ty rest ie h tail
  have hl : (pre ++ cur :: post).length = pre.length + 1 + post.length := by simp; omega
  apply prun_none_bind
  rw [mkSt, prun_I i hw (by simp), hl, ← idsOf, h]
  rfl

/-- **for a well-formed source tree, the parse succeeds only if its tree-level description
    answers**: the converse of `buildBody_eq` -/
theorem expL_of_buildBody (e : PEnv) (entryTy : Nat) (body : PL) (hw : body.WF) (endLoc : Nat) (seqs : List PSeq)
    (h : buildBody e entryTy (body.flat ++ [(opEnd, endLoc)]) = some seqs) :
    (expL e [0] 1 false body).isSome = true := by
  have := congrArg Option.isSome h
  rwa [buildBody_flat e entryTy hw, Option.isSome_map] at this

end Walrus
