import Walrus.Proofs.Traverse
import Walrus.Visit

/-!
# C16 — IR traversals visit everything exactly once, in order, without recursion

Model: `Walrus/Traverse.lean` (the two work-stack loops of `src/ir/traversals.rs`),
`Walrus/Visit.lean` (what the generated `Visit`/`VisitMut` impls report per instruction, derived
from `Gen/InstrSpec.lean`, which the translator regenerates from `enum Instr` and the macro crate
on every run).

Proved for every function whose sequence graph unfolds to a finite tree (`ViewL`), of any size and
nesting depth: the immutable traversal is the recursive program-order walk (properly nested
start/end events); the mutable traversal scans every sequence of the tree exactly once; each
visited instruction reports each of its entity operands exactly once.  The "no recursion" clause
is structural in the model (both loops are step machines over an explicit stack); the real call
stack is observed by the oracle (depth 10^5 on a 256 KiB stack), not proved.
-/
namespace Walrus
namespace C16
open Gen

/-- **Immutable traversal = program-order walk**, with any recording visitor; the next theorem names an `n`. -/
theorem in_order_is_program_order (logsHook : Bool) (ar : IRArena) (entry : Nat) (ty : Option Nat)
    (t : TL (Option Nat) IRInstr) (he : ar.get? entry = some (ty, t.toList)) (hv : ViewL ar t) :
    ∃ n, ∀ fuel, n ≤ fuel →
      visitInOrder logsHook ar fuel entry =
        ([], walkSeq seqStart (instrEvents instrSpec logsHook (defaultVisits hookDefaultVisitsOperands)) seqEnd entry ty t) :=
  dfsInOrder_eq_walk _ _ _ ar entry ty t he hv

/-- **`costL t + 1` iterations of the in-order traversal's loop are enough** — one per instruction
    and one per sequence of the tree, whatever its depth: after that many iterations of
    `dfs_in_order`'s work-stack loop (or more) the stack is empty and the log is the program-order
    walk. That no smaller number does is not stated. -/
theorem in_order_takes_one_iteration_per_instruction_and_sequence (logsHook : Bool) (ar : IRArena) (entry : Nat)
    (ty : Option Nat) (t : TL (Option Nat) IRInstr) (he : ar.get? entry = some (ty, t.toList)) (hv : ViewL ar t)
    (fuel : Nat) (hf : costL t + 1 ≤ fuel) :
    visitInOrder logsHook ar fuel entry =
      ([], walkSeq seqStart (instrEvents instrSpec logsHook (defaultVisits hookDefaultVisitsOperands)) seqEnd entry ty t) :=
  dfsInOrder_eq_walk_steps _ _ _ ar entry ty t he hv fuel hf

/-- **Mutable traversal**: own instructions of a sequence first, then every nested sequence, each
    exactly once. -/
theorem pre_order_visits_each_sequence_once (logsHook : Bool) (ar : IRArena) (entry : Nat) (ty : Option Nat)
    (t : TL (Option Nat) IRInstr) (he : ar.get? entry = some (ty, t.toList)) (hv : ViewL ar t) :
    ∃ n, ∀ fuel, n ≤ fuel →
      visitPreOrderMut logsHook ar fuel entry =
        ([], preSeq seqStart (instrEvents instrSpec logsHook (defaultVisits mutHookDefaultVisitsOperands)) seqEnd entry ty t) :=
  dfsPreOrderMut_eq _ _ _ ar entry ty t he hv

def isEntityEv : VEv → Bool
  | .operand k _ => isEntityKind k
  | _ => false

/-- the entity operands an instruction has, read off the instruction itself -/
def entityOperands (vals : List FieldVal) : List VEv :=
  vals.flatMap fun v => if isEntityKind v.kind then v.ids.map (VEv.operand v.kind) else []

/-- the instruction has the fields the table lists for its variant, with the kinds their types imply -/
def Conforms : List FieldSpec → List FieldVal → Prop
  | [], [] => True
  | f :: fs, v :: vs => f.name = v.name ∧ kindOfType f.ty = v.kind ∧ Conforms fs vs
  | _, _ => False

def noEntitySkipped (fs : List FieldSpec) : Bool :=
  fs.all fun f => !(isEntityKind (kindOfType f.ty) && f.skipVisit)

theorem filter_map_operand (k : String) (ids : List Nat) :
    (ids.map (VEv.operand k)).filter isEntityEv = if isEntityKind k then ids.map (VEv.operand k) else [] := by
  induction ids with
  | nil => simp
  | cons i r ih =>
    simp only [List.map_cons, List.filter_cons, isEntityEv, ih]
    cases isEntityKind k <;> simp

/-- for a conforming instruction whose variant skips no entity field, the operand callbacks
    restricted to entities are exactly the instruction's entity operands, each once, in order -/
theorem field_events_entities (fs : List FieldSpec) (vals : List FieldVal)
    (hc : Conforms fs vals) (hs : noEntitySkipped fs = true) :
    (fieldEvents fs vals).filter isEntityEv = entityOperands vals := by
  induction fs generalizing vals with
  | nil =>
    cases vals with
    | nil => rfl
    | cons v vs => cases hc
  | cons f fs ih =>
    cases vals with
    | nil => cases hc
    | cons v vs =>
      obtain ⟨hn, hk, hr⟩ := hc
      simp only [noEntitySkipped, List.all_cons, Bool.and_eq_true] at hs
      have ih' := ih vs hr hs.2
      simp only [fieldEvents, hn, if_true, List.filter_append, ih', entityOperands, List.flatMap_cons]
      congr 1
      rw [← hk]
      cases hsk : f.skipVisit
      · simp [filter_map_operand]
      · have := hs.1
        simp only [hsk, Bool.and_true, Bool.not_eq_true'] at this
        simp [this]

/-- obligation on the regenerated table: no variant hides an entity operand from visitors -/
theorem table_skips_no_entity : instrSpec.all (fun v => noEntitySkipped v.fields) = true := by decide +kernel

/-- obligations on the regenerated visitor plumbing: `Instr::visit[_mut]` = hook, then operands;
    the default hooks themselves do not visit the operands again -/
theorem plumbing_visits_operands_once :
    instrEnumFound = true ∧ instrVisitIsHookThenOperands = true ∧ instrVisitMutIsHookThenOperands = true ∧
    hookDefaultVisitsOperands = some false ∧ mutHookDefaultVisitsOperands = some false := by decide +kernel

/-- **Each visited instruction reports each entity operand exactly once**, for visitors with
    default and with overridden hooks, in both traversals. -/
theorem operands_exactly_once (logsHook : Bool) (i : IRInstr) (vs : VariantSpec)
    (hv : findVariant instrSpec i.variant = some vs) (hc : Conforms vs.fields i.fields) :
    (instrEvents instrSpec logsHook (defaultVisits hookDefaultVisitsOperands) i).filter isEntityEv = entityOperands i.fields ∧
    (instrEvents instrSpec logsHook (defaultVisits mutHookDefaultVisitsOperands) i).filter isEntityEv = entityOperands i.fields := by
  have hskip : noEntitySkipped vs.fields = true :=
    List.all_eq_true.1 table_skips_no_entity vs (List.mem_of_find?_eq_some hv)
  have hops : (operandEvents instrSpec i).filter isEntityEv = entityOperands i.fields := by
    simp only [operandEvents, hv]
    exact field_events_entities vs.fields i.fields hc hskip
  have h1 : defaultVisits hookDefaultVisitsOperands = false := by
    rw [plumbing_visits_operands_once.2.2.2.1]; rfl
  have h2 : defaultVisits mutHookDefaultVisitsOperands = false := by
    rw [plumbing_visits_operands_once.2.2.2.2]; rfl
  rw [h1, h2]
  cases logsHook <;> simp [instrEvents, hops, isEntityEv]

/-- non-vacuity: a concrete conforming instruction (`call_indirect` with its two entity operands)
    and a three-sequence tree -/
example : ∃ vs, findVariant instrSpec "CallIndirect" = some vs ∧
    Conforms vs.fields [⟨"ty", "y", [4]⟩, ⟨"table", "t", [0]⟩] := by
  refine ⟨⟨"CallIndirect", false, [⟨"ty", "TypeId", false, false⟩, ⟨"table", "TableId", false, false⟩]⟩, by decide, ?_⟩
  exact ⟨rfl, by decide, rfl, by decide, trivial⟩

example : (visitInOrder true
    [(0, none, [toT ⟨"Block", [⟨"seq", "s", [1]⟩], 7⟩, toT ⟨"Drop", [], 8⟩]), (1, some 3, [toT ⟨"Call", [⟨"func", "f", [2]⟩], 9⟩])] 20 0).2
  = [.startSeq 0, .instr "Block" 7, .hook "Block", .operand "s" 1, .startSeq 1, .seqType 3, .instr "Call" 9, .hook "Call",
     .operand "f" 2, .endSeq 1, .instr "Drop" 8, .hook "Drop", .endSeq 0] := by decide +kernel

end C16
end Walrus
