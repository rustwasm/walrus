import Walrus.Module
import Walrus.Proofs.CodeMaps

/-!
`roundTripModule` read backwards (C04, C13, C20). Its pieces are given names (`rtImport`, `rtExport`, …,
`rtParts`) under which the definition is an equation that holds by `rfl` (`roundTripModule_eq`); splitting
that equation, not the definition with its `let`s expanded, gives `RoundTrip`: field by field, what an
output of the round trip is made of. The last step, `writeModule` with its inversion `Written`, is the
one `gcRoundTrip` ends in as well. The other lemmas say what each piece does to its input, and
`RoundTrip.components` puts the two together.
-/
namespace Walrus

/-- what renumbering keeps of one operand: an entity operand stays an operand of the same index
    space, anything else (numeric constants, types, block types) is unchanged -/
def ArgKept (a a' : Arg) : Prop :=
  match a with
  | .ref sp _ => ∃ n, a' = .ref sp n
  | x => a' = x

/-- what the round trip keeps of a constant expression: the operators, one for one and in order,
    with their names and operands (`ArgKept`) -/
def CExprKept (c c' : CExprM) : Prop :=
  c'.length = c.length ∧ ∀ (i : Nat) (op : Op), c[i]? = some op → ∃ op', c'[i]? = some op' ∧
    op'.name = op.name ∧ op'.args.length = op.args.length ∧
    ∀ (k : Nat) (a : Arg), op.args[k]? = some a → ∃ a', op'.args[k]? = some a' ∧ ArgKept a a'

/-- what the round trip keeps of one element segment: the mode (for an active segment the table it
    initialises — an absent table operand means table 0), the kind of its items, the element type
    and the number of expression items, and the function items renamed by the map `ρ` -/
def ElemKept (ρ : List (Nat × Nat)) (e e' : ElemM) : Prop :=
  (match e.mode with
   | .active t off => ∃ t' off', e'.mode = .active t' off' ∧ t'.getD 0 = t.getD 0 ∧ CExprKept off off'
   | .passive => e'.mode = .passive
   | .declared => e'.mode = .declared) ∧
  (match e.items with
   | .funcs fs => ∃ fs', e'.items = .funcs fs' ∧ fs.mapM (assoc ρ) = some fs' ∧ fs'.length = fs.length
   | .exprs ty es => ∃ es', e'.items = .exprs ty es' ∧ es'.length = es.length ∧
       ∀ (i : Nat) (c : CExprM), es[i]? = some c → ∃ c', es'[i]? = some c' ∧ CExprKept c c')

theorem mem_distinctIds (l : List Nat) (x : Nat) : x ∈ distinctIds l ↔ x ∈ l := by
  rw [distinctIds, mem_foldl_distinct]; simp

theorem distinctIds_nodup (l : List Nat) : (distinctIds l).Nodup :=
  nodup_foldl_distinct l [] List.nodup_nil

theorem lastName_some_mem {l : List (Nat × String)} {i : Nat} {s : String} (h : lastName l i = some s) :
    (i, s) ∈ l := by
  simp only [lastName, Option.map_eq_some_iff] at h
  obtain ⟨p, hp, rfl⟩ := h
  have hi : p.1 = i := by simpa using List.find?_some hp
  exact hi ▸ List.mem_reverse.1 (List.mem_of_find?_eq_some hp)

theorem mergeNames_empty (n : NamesM) : mergeNames {} n = n := by
  obtain ⟨mod, _, _, _, _, _, _, _, _⟩ := n
  cases mod <;> rfl

theorem lastName_append (a b : List (Nat × String)) (i : Nat) :
    lastName (a ++ b) i = (lastName b i).or (lastName a i) := by
  unfold lastName
  rw [List.reverse_append, List.find?_append]
  cases h : b.reverse.find? (·.1 = i) <;> simp

theorem mem_keepNames {l : List (Nat × String)} {p : Nat × String} :
    p ∈ keepNames l ↔ lastName l p.1 = some p.2 := by
  simp only [keepNames, sortNames, mem_sortBy, List.mem_filterMap, Option.map_eq_some_iff, mem_distinctIds]
  constructor
  · rintro ⟨i, _, s, hs, rfl⟩; exact hs
  · intro h; exact ⟨p.1, List.mem_map.2 ⟨_, lastName_some_mem h, rfl⟩, p.2, h, rfl⟩

theorem mem_funcNamesOut (l : List (Nat × String)) (fm : List (Nat × Nat)) (p : Nat × String) :
    p ∈ funcNamesOut l fm ↔ ∃ i, lastName l i = some p.2 ∧ assoc fm i = some p.1 := by
  simp only [funcNamesOut, sortNames, mem_sortBy, List.mem_filterMap, mem_distinctIds]
  constructor
  · rintro ⟨i, _, hi⟩
    split at hi
    · rename_i s j hs hj; cases hi; exact ⟨i, hs, hj⟩
    · cases hi
  · rintro ⟨i, hs, hj⟩
    exact ⟨i, List.mem_map.2 ⟨_, lastName_some_mem hs, rfl⟩, by simp [hs, hj]⟩

theorem keepNames_nodup (l : List (Nat × String)) : ((keepNames l).map (·.1)).Nodup := by
  refine ((sortBy_perm _ _).map _).nodup_iff.2 (nodup_keys_filterMap _ _ _ (distinctIds_nodup _) ?_)
  intro i i' p p' hp hp' e
  simp only [Option.map_eq_some_iff] at hp hp'
  obtain ⟨_, _, rfl⟩ := hp
  obtain ⟨_, _, rfl⟩ := hp'
  exact e

theorem funcNamesOut_nodup (l : List (Nat × String)) (ρ : List (Nat × Nat)) (hinj : AssocInj ρ) :
    ((funcNamesOut l ρ).map (·.1)).Nodup := by
  refine ((sortBy_perm _ _).map _).nodup_iff.2 (nodup_keys_filterMap _ _ _ (distinctIds_nodup _) ?_)
  intro i i' p p' hp hp' e
  -- an entry `(j, s)` made from `i` says `assoc ρ i = some j`
  have key : ∀ {i p}, (match lastName l i, assoc ρ i with | some s, some j => some (j, s) | _, _ => none) = some p →
      assoc ρ i = some p.1 := fun h => by split at h <;> cases h; assumption
  exact hinj _ _ _ (key hp) (e ▸ key hp')

theorem mapRef_kept (get : String → Nat → Option Nat) (a a' : Arg) (h : mapRef get a = some a') : ArgKept a a' := by
  cases a <;> simp only [mapRef, Option.map_eq_some_iff, Option.some.injEq] at h
  · obtain ⟨n, _, rfl⟩ := h; exact ⟨n, rfl⟩
  all_goals exact h.symm

theorem mapCExpr_kept {m : IdMaps} {c c' : CExprM} (h : mapCExpr m c = some c') : CExprKept c c' := by
  refine ⟨mapM_some_length h, fun i op hi => ?_⟩
  obtain ⟨op', hop', hf⟩ := mapM_some_get h i op hi
  rw [mapArgs_eq_mapM, Option.map_eq_some_iff] at hf
  obtain ⟨as, has, rfl⟩ := hf
  exact ⟨_, hop', rfl, mapM_some_length has, mapM_some_all has (mapRef_kept m.get)⟩

theorem mapCExpr_isSome_iff (m : IdMaps) (c : CExprM) :
    (mapCExpr m c).isSome = true ↔
      ∀ op ∈ c, ∀ sp id, Arg.ref sp id ∈ op.args → (m.get sp id).isSome = true := by
  rw [mapCExpr, mapM_isSome_iff]
  simp only [Option.isSome_map, mapArgs_eq_mapM, mapRef_mapM_isSome_iff]

theorem rtData_facts (maps : IdMaps) (d d' : DataM) (h : rtData maps d = some d') :
    d'.bytes = d.bytes ∧
    (match d.mode with
     | .passive => d'.mode = .passive ∧ d'.flag = 1
     | .active mem o => (∃ off, d'.mode = .active mem off ∧ CExprKept o off) ∧ d'.flag = (match mem with | 0 => 0 | _ => 2)) := by
  obtain ⟨fl, md, by'⟩ := d
  unfold rtData at h
  cases md with
  | passive => simp at h; subst h; exact ⟨rfl, rfl, rfl⟩
  | active mem off =>
    simp only [Option.map_eq_some_iff] at h
    obtain ⟨o', ho', rfl⟩ := h
    refine ⟨rfl, ⟨o', rfl, mapCExpr_kept ho'⟩, ?_⟩
    cases mem <;> simp [dataFlag]

/-- the mode of an element segment through parse and emit: the table operand is dropped when it is 0 -/
def rtElemMode (maps : IdMaps) : ElemModeM → Option ElemModeM
  | .active t off => (mapCExpr maps off).map fun o => ElemModeM.active (match t.getD 0 with | 0 => none | k => some k) o
  | x => some x

def rtElemItems (fm : List (Nat × Nat)) (maps : IdMaps) : ElemItemsM → Option ElemItemsM
  | .funcs fs => (fs.mapM (assoc fm)).map ElemItemsM.funcs
  | .exprs ty es => (es.mapM (mapCExpr maps)).map (ElemItemsM.exprs ty)

/-- encodings 2 and 6 carry an explicit table index, which a decoder reports -/
def explicitTable (flag : Nat) (md : ElemModeM) : ElemModeM :=
  match md with
  | .active none o => if flag = 2 || flag = 6 then ElemModeM.active (some 0) o else md
  | x => x

theorem rtElem_eq (fm : List (Nat × Nat)) (maps : IdMaps) (e : ElemM) : rtElem fm maps e =
    match rtElemMode maps e.mode, rtElemItems fm maps e.items with
    | some md, some it => some ⟨elemFlag md it, explicitTable (elemFlag md it) md, it⟩
    | _, _ => none := rfl

theorem rtElem_some (fm : List (Nat × Nat)) (maps : IdMaps) (e e' : ElemM) (h : rtElem fm maps e = some e') :
    ∃ md, rtElemMode maps e.mode = some md ∧ rtElemItems fm maps e.items = some e'.items ∧
      e'.flag = elemFlag md e'.items ∧ e'.mode = explicitTable e'.flag md := by
  rw [rtElem_eq] at h
  split at h
  · rename_i md it hmd hit; cases h; exact ⟨md, hmd, hit, rfl, rfl⟩
  · cases h

/-- the table operand is dropped when it is 0, and denotes the same table either way -/
theorem rtElemMode_some {maps : IdMaps} {md0 md : ElemModeM} (h : rtElemMode maps md0 = some md) :
    (∃ t off t' o, md0 = .active t off ∧ md = .active t' o ∧ mapCExpr maps off = some o ∧
      t'.getD 0 = t.getD 0 ∧ (t.getD 0 = 0 → t' = none)) ∨
    (md0 = .passive ∧ md = .passive) ∨ (md0 = .declared ∧ md = .declared) := by
  cases md0 with
  | active t off =>
    obtain ⟨o, ho, rfl⟩ := Option.map_eq_some_iff.1 h
    refine Or.inl ⟨t, off, _, o, rfl, rfl, ho, ?_⟩
    cases t.getD 0 with
    | zero => exact ⟨rfl, fun _ => rfl⟩
    | succ n => exact ⟨rfl, fun h => nomatch h⟩
  | passive => exact Or.inr (Or.inl ⟨rfl, (Option.some.inj h).symm⟩)
  | declared => exact Or.inr (Or.inr ⟨rfl, (Option.some.inj h).symm⟩)

theorem rtElemItems_some {fm : List (Nat × Nat)} {maps : IdMaps} {it it' : ElemItemsM} (h : rtElemItems fm maps it = some it') :
    (∃ fs fs', it = .funcs fs ∧ it' = .funcs fs' ∧ fs.mapM (assoc fm) = some fs') ∨
    (∃ ty es es', it = .exprs ty es ∧ it' = .exprs ty es' ∧ es.mapM (mapCExpr maps) = some es') := by
  cases it with
  | funcs fs =>
    obtain ⟨fs', hfs, rfl⟩ := Option.map_eq_some_iff.1 h
    exact Or.inl ⟨fs, fs', rfl, rfl, hfs⟩
  | exprs ty es =>
    obtain ⟨es', hes, rfl⟩ := Option.map_eq_some_iff.1 h
    exact Or.inr ⟨ty, es, es', rfl, rfl, hes⟩

theorem rtElem_flag (fm : List (Nat × Nat)) (maps : IdMaps) (e e' : ElemM) (h : rtElem fm maps e = some e') :
    (match e.mode, e.items with
     | .active t _, .funcs _ => t.getD 0 = 0 → e'.flag = 0
     | .active t _, .exprs ty _ => t.getD 0 = 0 → ty = "funcref" → e'.flag = 4
     | .passive, .funcs _ => e'.flag = 1
     | .declared, .funcs _ => e'.flag = 3
     | .passive, .exprs _ _ => e'.flag = 5
     | .declared, .exprs _ _ => e'.flag = 7) := by
  obtain ⟨md, hmd, hit, hflag, -⟩ := rtElem_some fm maps e e' h
  rw [hflag]
  -- `md` and `e'.items` are of the kinds of `e.mode` and `e.items`, and on constructors `elemFlag` computes
  rcases rtElemItems_some hit with ⟨fs, fs', hi, hi', -⟩ | ⟨ty, es, es', hi, hi', -⟩
  · rcases rtElemMode_some hmd with ⟨t, off, t', o, hm, rfl, -, -, ht'⟩ | ⟨hm, rfl⟩ | ⟨hm, rfl⟩ <;> rw [hm, hi, hi']
    · intro ht; rw [ht' ht]; rfl
    · rfl
    · rfl
  · rcases rtElemMode_some hmd with ⟨t, off, t', o, hm, rfl, -, -, ht'⟩ | ⟨hm, rfl⟩ | ⟨hm, rfl⟩ <;> rw [hm, hi, hi']
    · intro ht hty; rw [ht' ht, hty]; rfl
    · rfl
    · rfl

theorem rtElem_kept (fm : List (Nat × Nat)) (maps : IdMaps) (e e' : ElemM) (h : rtElem fm maps e = some e') :
    ElemKept fm e e' := by
  obtain ⟨md, hmd, hit, -, hmode⟩ := rtElem_some fm maps e e' h
  constructor
  · rcases rtElemMode_some hmd with ⟨t, off, t', o, hm, rfl, ho, ht, -⟩ | ⟨hm, rfl⟩ | ⟨hm, rfl⟩ <;> rw [hm]
    · -- encodings 2 and 6 write the table operand 0 out: it denotes the same table
      rw [hmode]
      cases t' with
      | none =>
        simp only [explicitTable]
        split <;> exact ⟨_, o, rfl, ht, mapCExpr_kept ho⟩
      | some k => exact ⟨_, o, rfl, ht, mapCExpr_kept ho⟩
    · exact hmode
    · exact hmode
  · rcases rtElemItems_some hit with ⟨fs, fs', hi, hi', hfs⟩ | ⟨ty, es, es', hi, hi', hes⟩ <;> rw [hi]
    · exact ⟨fs', hi', hfs, mapM_some_length hfs⟩
    · exact ⟨es', hi', mapM_some_length hes, mapM_some_all hes fun _ _ => mapCExpr_kept⟩

/-- what `roundTripModule` keeps of its input, component by component (C04, C13 and C20 project it).
    (Lean elaborates a `match` in a statement to the first matcher of that shape declared in the file:
    the `match`es below are those of `rtElem_flag` and `rtData_facts`, which therefore stay above, with
    nothing of their shapes before them.) -/
structure RTComponents (m o : ModuleM) : Prop where
  tables : o.tables = m.tables
  mems : o.mems = m.mems
  importsLen : o.imports.length = m.imports.length
  imports : ∀ (k : Nat) (i : String × String × ImportDescM), m.imports[k]? = some i → ∃ j : String × String × ImportDescM, o.imports[k]? = some j ∧ j.1 = i.1 ∧ j.2.1 = i.2.1 ∧
    (match i.2.2 with
     | .func _ => ∃ t, j.2.2 = .func t
     | d => j.2.2 = d)
  globalsLen : o.globals.length = m.globals.length
  globals : ∀ (k : Nat) (g : GlobalTyM × CExprM), m.globals[k]? = some g → ∃ h : GlobalTyM × CExprM, o.globals[k]? = some h ∧ h.1 = g.1 ∧ CExprKept g.2 h.2
  exportsLen : o.exports.length = m.exports.length
  exports : ∀ (k : Nat) (e : String × String × Nat), m.exports[k]? = some e → ∃ e' : String × String × Nat, o.exports[k]? = some e' ∧ e'.1 = e.1 ∧ e'.2.1 = e.2.1 ∧
    (e.2.1 ≠ "f" → e'.2.2 = e.2.2)
  elemsLen : o.elems.length = m.elems.length
  datasLen : o.datas.length = m.datas.length
  datas : ∀ (k : Nat) (d : DataM), m.datas[k]? = some d → ∃ d' : DataM, o.datas[k]? = some d' ∧ d'.bytes = d.bytes ∧
    (match d.mode with
     | .passive => d'.mode = .passive
     | .active mem o => ∃ off, d'.mode = .active mem off ∧ CExprKept o off)
  startSome : m.start.isSome = o.start.isSome
  elems : ∀ (k : Nat) (e : ElemM), m.elems[k]? = some e → ∃ e' : ElemM, o.elems[k]? = some e' ∧
    (match e.mode, e.items with
     | .active t _, .funcs _ => t.getD 0 = 0 → e'.flag = 0
     | .active t _, .exprs ty _ => t.getD 0 = 0 → ty = "funcref" → e'.flag = 4
     | .passive, .funcs _ => e'.flag = 1
     | .declared, .funcs _ => e'.flag = 3
     | .passive, .exprs _ _ => e'.flag = 5
     | .declared, .exprs _ _ => e'.flag = 7)
  dataFlags : ∀ (k : Nat) (d : DataM), m.datas[k]? = some d → ∃ d' : DataM, o.datas[k]? = some d' ∧
    (match d.mode with
     | .passive => d'.flag = 1
     | .active 0 _ => d'.flag = 0
     | .active _ _ => d'.flag = 2)
  noDataNoCount : m.datas = [] → o.dataCount = none
  -- a data-count section, when written, states the number of data segments
  dataCountExact : ∀ n, o.dataCount = some n → n = m.datas.length ∧ o.datas.length = n
  funcsLen : o.funcs.length = o.code.length
  -- one map renames the function operands of exports and of the start section
  funcRenaming : ∃ ρ : List (Nat × Nat),
    (∀ (k : Nat) (e : String × String × Nat), m.exports[k]? = some e → e.2.1 = "f" →
      ∃ e' : String × String × Nat, o.exports[k]? = some e' ∧ assoc ρ e.2.2 = some e'.2.2) ∧
    (∀ s, m.start = some s → ∃ s', o.start = some s' ∧ assoc ρ s = some s') ∧
    (∀ no, o.names = some no → ∃ n, m.names = some n ∧ no.module = n.module ∧ no.funcs = funcNamesOut n.funcs ρ ∧
      no.tables = keepNames n.tables ∧ no.mems = keepNames n.mems ∧ no.globals = keepNames n.globals ∧
      no.elems = keepNames n.elems ∧ no.datas = keepNames n.datas) ∧
    -- ... and the function items of element segments; mode, table, item kind, element type and
    -- item count of every element segment are kept
    (∀ (k : Nat) (e : ElemM), m.elems[k]? = some e → ∃ e' : ElemM, o.elems[k]? = some e' ∧ ElemKept ρ e e') ∧
    -- the map is injective: two functions of the input never share an index of the output
    (∀ a b x : Nat, assoc ρ a = some x → assoc ρ b = some x → a = b)

/-- the function renaming of the round trip is injective: imports answer below `nif`, local
    functions with `nif +` their position -/
theorem funcMap_injective {α : Type} (key : α → Nat) (nif : Nat) (fs : List α) (a b x : Nat)
    (ha : assoc ((List.range nif).map (fun i => (i, i)) ++ fs.zipIdx.map (fun p => (key p.1, nif + p.2))) a = some x)
    (hb : assoc ((List.range nif).map (fun i => (i, i)) ++ fs.zipIdx.map (fun p => (key p.1, nif + p.2))) b = some x) :
    a = b := by
  refine assocInj_append _ _ (assocInj_idMap _) (assocInj_zipIdx key (nif + ·) (fun _ _ h => by omega) fs 0) ?_ a b x ha hb
  intro k k' y h1 h2
  obtain ⟨rfl, hk⟩ := assoc_idMap h1
  obtain ⟨j, _, _, _, rfl⟩ := assoc_zipIdx_get key (nif + ·) h2
  have := List.mem_range.1 hk
  omega

/-!
The definitions below are the sub-expressions of `roundTripModule`, word for word, under names of their
own. `typeNamesOut`, `localNamesOut`, `rtDataCount` and `dropEmptyNames` take what they depend on as
arguments: `gcRoundTrip` writes the same expressions with its own maps, about what it keeps (`gcNamesOut`,
`gcParts`, Proofs/GcEmit). -/

/-- the code-related sections of a module, as `roundTripModule` hands them to `parseCode` -/
def codeOf (m : ModuleM) : InCode :=
  ⟨m.sigs, importedCount m "f", m.code.zip m.funcs |>.map fun p => ⟨p.2, p.1.1, p.1.2⟩⟩

theorem codeOf_funcs_length (m : ModuleM) (hlen : m.code.length = m.funcs.length) :
    (codeOf m).funcs.length = m.funcs.length := by
  simp [codeOf, hlen]

theorem codeOf_funcs_get (m : ModuleM) (k : Nat) (f : InFunc) (hf : (codeOf m).funcs[k]? = some f) :
    ∃ locals, m.code[k]? = some (locals, f.ops) := by
  simp only [codeOf, List.getElem?_map, Option.map_eq_some_iff] at hf
  obtain ⟨⟨⟨locals, ops⟩, fi⟩, hp, rfl⟩ := hf
  exact ⟨locals, (List.getElem?_zip_eq_some.1 hp).1⟩

/-- the emitted type section with the TypeId of every entry -/
abbrev sortedTys (sigs : List Sig) : List (Nat × Sig) := sortBy (fun a b => sigLe a.2 b.2) (idSigs sigs)

/-- TypeId ↦ type index of the output -/
abbrev rtTyMap (sigs : List Sig) : List (Nat × Nat) := (sortedTys sigs).zipIdx.map fun p => (p.1.1, p.2)

/-- FunctionId ↦ function index of the output -/
abbrev rtFuncMap (nif : Nat) (fs : List OutFunc) : List (Nat × Nat) :=
  (List.range nif).map (fun i => (i, i)) ++ fs.zipIdx.map fun p => (p.1.id, nif + p.2)

abbrev rtMaps (m : ModuleM) (oc : OutCode) : IdMaps :=
  { funcs := rtFuncMap (importedCount m "f") oc.funcs, types := rtTyMap m.sigs, identity := ["t", "g", "m", "d", "e"] }

/-- the maps the other sections of the round trip are written with are the maps the code section was
    emitted with (as `gcMaps_eq` after the GC pass): without a pass, `mapsOf` at `keepAll` -/
theorem rtMaps_eq (m : ModuleM) (pfs : List ParsedFunc) (oc : OutCode) (h : emitCode (codeOf m) pfs = some oc) :
    rtMaps m oc = mapsOf (codeOf m) pfs (keepAll (codeOf m) pfs.length) [] := by
  have hid : (List.range (importedCount m "f")).zipIdx.map (fun p => (p.1, p.2)) =
      (List.range (importedCount m "f")).map fun i => (i, i) := by
    apply List.ext_getElem?
    intro k
    by_cases hk : k < importedCount m "f" <;> simp [hk]
  have hf : rtFuncMap (importedCount m "f") oc.funcs = funcMapOf (codeOf m) pfs (keepAll (codeOf m) pfs.length) := by
    rw [← emitCodeWith_funcMap (codeOf m) pfs _ oc h, keepAll_imports, List.length_range]
    exact congrArg (· ++ _) hid.symm
  have ht : rtTyMap m.sigs = tyMapOf (codeOf m) (keepAll (codeOf m) pfs.length) :=
    congrArg (fun l => (sortBy _ l).zipIdx.map _) (idSigs_filter_all m.sigs).symm
  rw [rtMaps, hf, ht]
  rfl

/-- type names: names given to any index of a merged type land on the one type id; the last wins -/
def typeNamesOut (tids : List Nat) (tyMap : List (Nat × Nat)) (l : List (Nat × String)) : List (Nat × String) :=
  sortNames ((distinctIds (l.filterMap fun p => tids[p.1]?)).filterMap fun tid =>
    let given := l.filterMap fun p => if tids[p.1]? = some tid then some (tid, p.2) else none
    match lastName given tid, assoc tyMap tid with
    | some s, some j => some (j, s)
    | _, _ => none)

/-- local names of the emitted functions, through each function's own local map -/
def localNamesOut (nif : Nat) (pfs : List ParsedFunc) (fs : List OutFunc) (funcMap : List (Nat × Nat))
    (l : List (Nat × List (Nat × String))) : List (Nat × List (Nat × String)) :=
  sortBy (fun a b => a.1 ≤ b.1) (fs.filterMap fun f =>
    match pfs[f.id - nif]? with
    | none => none
    | some pf =>
      let given := (l.filter (·.1 = f.id)).flatMap (·.2)
      let named := (distinctIds (given.map (·.1))).filterMap fun li =>
        match pf.localTys[li]?, lastName given li with
        | some (lid, _), some s => if f.usedLocals.contains lid then (assoc f.localMap lid).map fun slot => (slot, s) else none
        | _, _ => none
      if named.isEmpty then none else (assoc funcMap f.id).map fun j => (j, sortNames named))

/-- the name section written for the input's name section `n` (before the check for emptiness) -/
def namesOut (m : ModuleM) (pfs : List ParsedFunc) (oc : OutCode) (n : NamesM) : NamesM :=
  { module := n.module, funcs := funcNamesOut n.funcs (rtFuncMap (importedCount m "f") oc.funcs),
    locals := localNamesOut (importedCount m "f") pfs oc.funcs (rtFuncMap (importedCount m "f") oc.funcs) n.locals,
    types := typeNamesOut (dedupIds m.sigs) (rtTyMap m.sigs) n.types,
    tables := keepNames n.tables, mems := keepNames n.mems, globals := keepNames n.globals,
    elems := keepNames n.elems, datas := keepNames n.datas }

/-- one import through parse and emit: a function import gets the new index of its type -/
def rtImport (sigs : List Sig) (i : String × String × ImportDescM) : Option (String × String × ImportDescM) :=
  match i.2.2 with
  | .func t => (((dedupIds sigs)[t]?).bind (assoc (rtTyMap sigs))).map fun t' => (i.1, i.2.1, ImportDescM.func t')
  | d => some (i.1, i.2.1, d)

def rtGlobal (maps : IdMaps) (g : GlobalTyM × CExprM) : Option (GlobalTyM × CExprM) :=
  (mapCExpr maps g.2).map fun e => (g.1, e)

def rtExport (fm : List (Nat × Nat)) (e : String × String × Nat) : Option (String × String × Nat) :=
  if e.2.1 = "f" then (assoc fm e.2.2).map fun i => (e.1, e.2.1, i) else some e

def rtStart (fm : List (Nat × Nat)) : Option Nat → Option (Option Nat)
  | none => some none
  | some s => (assoc fm s).map some

/-- the data-count rule: written when there is a passive segment or a body that mentions one
    (`datas`, `pfs`: the segments and the functions that are written) -/
def rtDataCount (datas : List DataM) (pfs : List ParsedFunc) : Option Nat :=
  let anyPassive := datas.any fun d => match d.mode with | .passive => true | _ => false
  let anyUse := pfs.any fun f =>
    let ar := PSeqs.toArena f.seqs
    usesData (bodyEvents ar (arenaFuel ar) 0).2
  if datas.isEmpty then none else if anyPassive || anyUse then some datas.length else none

/-- no name section is written where there is nothing to name -/
def dropEmptyNames : Option NamesM → Option NamesM
  | some n => if n.module.isNone && n.funcs.isEmpty && n.locals.isEmpty && n.types.isEmpty && n.tables.isEmpty &&
                n.mems.isEmpty && n.globals.isEmpty && n.elems.isEmpty && n.datas.isEmpty then none else some n
  | none => none

/-- what an emission (`roundTripModule`, `gcRoundTrip`) hands to its last step: the emitted code, the
    sections that need no lookup, and the six sections that look indices up (`none` = a lookup failed) -/
structure OutParts where
  code : OutCode
  tables : List TableTyM
  mems : List MemTyM
  dataCount : Option Nat
  names : Option NamesM
  imports : Option (List (String × String × ImportDescM))
  globals : Option (List (GlobalTyM × CExprM))
  exports : Option (List (String × String × Nat))
  start : Option (Option Nat)
  elems : Option (List ElemM)
  datas : Option (List DataM)

/-- the last step of both emissions: the module is written when each of the six sections that look
    indices up has answered -/
def writeModule (p : OutParts) : Option ModuleM :=
  match p.imports, p.globals, p.exports, p.start, p.elems, p.datas with
  | some im, some gl, some ex, some st, some el, some da =>
    some { sigs := p.code.sigs, imports := im, funcs := p.code.funcs.map (·.tyIdx), tables := p.tables, mems := p.mems,
           globals := gl, exports := ex, start := st, elems := el, dataCount := p.dataCount, datas := da,
           code := p.code.funcs.map (fun f => (f.locals, f.ops.map (·, 0))), names := p.names }
  | _, _, _, _, _, _ => none

/-- `o` is what `writeModule p` answers: field by field, where each section of `o` comes from -/
structure Written (p : OutParts) (o : ModuleM) : Prop where
  sigs : o.sigs = p.code.sigs
  funcs : o.funcs = p.code.funcs.map (·.tyIdx)
  code : o.code = p.code.funcs.map fun f => (f.locals, f.ops.map (·, 0))
  tables : o.tables = p.tables
  mems : o.mems = p.mems
  dataCount : o.dataCount = p.dataCount
  names : o.names = p.names
  imports : p.imports = some o.imports
  globals : p.globals = some o.globals
  exports : p.exports = some o.exports
  start : p.start = some o.start
  elems : p.elems = some o.elems
  datas : p.datas = some o.datas

theorem writeModule_some {p : OutParts} {o : ModuleM} (h : writeModule p = some o) : Written p o := by
  unfold writeModule at h
  split at h
  · rename_i him hgl hex hst hel hda
    cases h
    exact ⟨rfl, rfl, rfl, rfl, rfl, rfl, rfl, him, hgl, hex, hst, hel, hda⟩
  · cases h

theorem writeModule_isSome {p : OutParts} (him : p.imports.isSome = true) (hgl : p.globals.isSome = true)
    (hex : p.exports.isSome = true) (hst : p.start.isSome = true) (hel : p.elems.isSome = true)
    (hda : p.datas.isSome = true) : (writeModule p).isSome = true := by
  obtain ⟨_, him⟩ := Option.isSome_iff_exists.1 him
  obtain ⟨_, hgl⟩ := Option.isSome_iff_exists.1 hgl
  obtain ⟨_, hex⟩ := Option.isSome_iff_exists.1 hex
  obtain ⟨_, hst⟩ := Option.isSome_iff_exists.1 hst
  obtain ⟨_, hel⟩ := Option.isSome_iff_exists.1 hel
  obtain ⟨_, hda⟩ := Option.isSome_iff_exists.1 hda
  rw [writeModule, him, hgl, hex, hst, hel, hda]
  rfl

/-- what the round trip hands to `writeModule` once the code has been parsed (`pfs`) and emitted (`oc`) -/
abbrev rtParts (m : ModuleM) (pfs : List ParsedFunc) (oc : OutCode) : OutParts :=
  { code := oc, tables := m.tables, mems := m.mems, dataCount := rtDataCount m.datas pfs,
    names := dropEmptyNames (m.names.map (namesOut m pfs oc)),
    imports := m.imports.mapM (rtImport m.sigs), globals := m.globals.mapM (rtGlobal (rtMaps m oc)),
    exports := m.exports.mapM (rtExport (rtMaps m oc).funcs), start := rtStart (rtMaps m oc).funcs m.start,
    elems := m.elems.mapM (rtElem (rtMaps m oc).funcs (rtMaps m oc)), datas := m.datas.mapM (rtData (rtMaps m oc)) }

theorem roundTripModule_eq (m : ModuleM) : roundTripModule m =
    if m.code.length ≠ m.funcs.length then none else
    match parseCode (codeOf m) with
    | none => none
    | some pfs =>
      match emitCode (codeOf m) pfs with
      | none => none
      | some oc => writeModule (rtParts m pfs oc) := by
  rfl  -- the tactic, not the term (as for `emitCodeWith_eq`)

/-- `o` is what the round trip makes of `m`, with `pfs` the parsed and `oc` the emitted code -/
structure RoundTrip (m : ModuleM) (pfs : List ParsedFunc) (oc : OutCode) (o : ModuleM) : Prop
    extends Written (rtParts m pfs oc) o where
  codeLen : m.code.length = m.funcs.length
  parsed : parseCode (codeOf m) = some pfs
  emitted : emitCode (codeOf m) pfs = some oc

theorem roundTripModule_some (m o : ModuleM) (h : roundTripModule m = some o) : ∃ pfs oc, RoundTrip m pfs oc o := by
  rw [roundTripModule_eq] at h
  split at h
  · cases h
  · rename_i hlen
    split at h
    · cases h
    · rename_i pfs hpfs
      split at h
      · cases h
      · rename_i oc hoc
        exact ⟨pfs, oc, writeModule_some h, by simpa using hlen, hpfs, hoc⟩

theorem rtImport_spec (sigs : List Sig) (i j : String × String × ImportDescM) (h : rtImport sigs i = some j) :
    j.1 = i.1 ∧ j.2.1 = i.2.1 ∧ (match i.2.2 with
      | .func _ => ∃ t, j.2.2 = .func t
      | d => j.2.2 = d) := by
  obtain ⟨a, b, d⟩ := i
  cases d <;> simp only [rtImport, Option.map_eq_some_iff, Option.some.injEq] at h
  · obtain ⟨t', _, rfl⟩ := h; exact ⟨rfl, rfl, t', rfl⟩
  all_goals subst h; exact ⟨rfl, rfl, rfl⟩

theorem rtExport_spec (fm : List (Nat × Nat)) (e e' : String × String × Nat) (h : rtExport fm e = some e') :
    e'.1 = e.1 ∧ e'.2.1 = e.2.1 ∧ (e.2.1 ≠ "f" → e'.2.2 = e.2.2) ∧ (e.2.1 = "f" → assoc fm e.2.2 = some e'.2.2) := by
  unfold rtExport at h
  split at h
  · rename_i hf
    obtain ⟨i, hi, rfl⟩ := Option.map_eq_some_iff.1 h
    exact ⟨rfl, rfl, fun hne => absurd hf hne, fun _ => hi⟩
  · rename_i hf
    cases h; exact ⟨rfl, rfl, fun _ => rfl, fun h => absurd h hf⟩

theorem rtStart_spec (fm : List (Nat × Nat)) (s : Option Nat) (s' : Option Nat) (h : rtStart fm s = some s') :
    s.isSome = s'.isSome ∧ ∀ a, s = some a → ∃ a', s' = some a' ∧ assoc fm a = some a' := by
  cases s with
  | none => cases h; exact ⟨rfl, fun _ h => nomatch h⟩
  | some a =>
    obtain ⟨a', ha', rfl⟩ := Option.map_eq_some_iff.1 h
    exact ⟨rfl, fun _ h => ⟨a', rfl, Option.some.inj h ▸ ha'⟩⟩

theorem rtDataCount_spec (datas : List DataM) (pfs : List ParsedFunc) (n : Nat) (h : rtDataCount datas pfs = some n) :
    n = datas.length ∧ datas ≠ [] := by
  unfold rtDataCount at h
  simp only at h
  split at h
  · cases h
  · rename_i hne
    split at h
    · exact ⟨(Option.some.inj h).symm, by simpa using hne⟩
    · cases h

theorem dropEmptyNames_some (f : NamesM → NamesM) (names : Option NamesM) (no : NamesM)
    (h : dropEmptyNames (names.map f) = some no) : ∃ n, names = some n ∧ no = f n := by
  cases names with
  | none => cases h
  | some n =>
    simp only [Option.map_some, dropEmptyNames] at h
    split at h
    · cases h
    · exact ⟨n, rfl, (Option.some.inj h).symm⟩

theorem RoundTrip.names_some {m o : ModuleM} {pfs : List ParsedFunc} {oc : OutCode} (rt : RoundTrip m pfs oc o)
    (no : NamesM) (hno : o.names = some no) : ∃ n, m.names = some n ∧ no = namesOut m pfs oc n :=
  dropEmptyNames_some _ m.names no (rt.names.symm.trans hno)

theorem RoundTrip.exports_renamed {m o : ModuleM} {pfs : List ParsedFunc} {oc : OutCode} (rt : RoundTrip m pfs oc o)
    (k : Nat) (e : String × String × Nat) (hk : m.exports[k]? = some e) (hf : e.2.1 = "f") :
    ∃ e' : String × String × Nat, o.exports[k]? = some e' ∧ assoc (rtMaps m oc).funcs e.2.2 = some e'.2.2 :=
  (mapM_some_all rt.exports (fun e e' h => (rtExport_spec _ e e' h).2.2.2) k e hk).imp fun _ he' => ⟨he'.1, he'.2 hf⟩

theorem RoundTrip.components {m o : ModuleM} {pfs : List ParsedFunc} {oc : OutCode} (rt : RoundTrip m pfs oc o) :
    RTComponents m o where
  tables := rt.tables
  mems := rt.mems
  importsLen := mapM_some_length rt.imports
  imports := mapM_some_all rt.imports (rtImport_spec m.sigs)
  globalsLen := mapM_some_length rt.globals
  globals := mapM_some_all rt.globals fun g g' h => by
    obtain ⟨e, he, rfl⟩ := Option.map_eq_some_iff.1 h
    exact ⟨rfl, mapCExpr_kept he⟩
  exportsLen := mapM_some_length rt.exports
  exports := mapM_some_all rt.exports fun e e' h =>
    let s := rtExport_spec _ e e' h; ⟨s.1, s.2.1, s.2.2.1⟩
  elemsLen := mapM_some_length rt.elems
  datasLen := mapM_some_length rt.datas
  datas := mapM_some_all rt.datas fun d d' h => by
    have := rtData_facts _ d d' h
    refine ⟨this.1, ?_⟩
    cases hm : d.mode <;> simp only [hm] at this ⊢ <;> exact this.2.1
  startSome := (rtStart_spec _ _ _ rt.start).1
  elems := mapM_some_all rt.elems (rtElem_flag _ _)
  dataFlags := mapM_some_all rt.datas fun d d' h => by
    have := (rtData_facts _ d d' h).2
    rcases hm : d.mode with ⟨_ | _, _⟩ | _ <;> simp only [hm] at this ⊢ <;> exact this.2
  noDataNoCount := fun hd => by
    cases hc : o.dataCount with
    | none => rfl
    | some n => exact absurd hd (rtDataCount_spec m.datas pfs n (rt.dataCount.symm.trans hc)).2
  dataCountExact := fun n hn => by
    have := (rtDataCount_spec m.datas pfs n (rt.dataCount.symm.trans hn)).1
    exact ⟨this, this ▸ mapM_some_length rt.datas⟩
  funcsLen := by rw [rt.funcs, rt.code]; simp
  funcRenaming := ⟨(rtMaps m oc).funcs, rt.exports_renamed,
    (rtStart_spec _ _ _ rt.start).2,
    fun no hno => by
      obtain ⟨n, hn, rfl⟩ := rt.names_some no hno
      exact ⟨n, hn, rfl, rfl, rfl, rfl, rfl, rfl, rfl⟩,
    mapM_some_all rt.elems (rtElem_kept _ _),
    funcMap_injective (fun f : OutFunc => f.id) _ oc.funcs⟩

theorem roundTrip_components (m o : ModuleM) (h : roundTripModule m = some o) : RTComponents m o :=
  let ⟨_, _, rt⟩ := roundTripModule_some m o h
  rt.components

theorem RoundTrip.sigs_eq {m o : ModuleM} {pfs : List ParsedFunc} {oc : OutCode} (rt : RoundTrip m pfs oc o) :
    o.sigs = (sortedTys m.sigs).map (·.2) :=
  rt.sigs.trans (emitCode_sigs (codeOf m) pfs oc rt.emitted)

theorem typeNamesOut_sound (tids : List Nat) (tyMap : List (Nat × Nat)) (l : List (Nat × String)) (p : Nat × String)
    (h : p ∈ typeNamesOut tids tyMap l) : ∃ i tid, (i, p.2) ∈ l ∧ tids[i]? = some tid ∧ assoc tyMap tid = some p.1 := by
  simp only [typeNamesOut, sortNames, mem_sortBy, List.mem_filterMap] at h
  obtain ⟨tid, _, h⟩ := h
  split at h
  · rename_i s j hs hj
    cases h
    obtain ⟨q, hq, hq2⟩ := List.mem_filterMap.1 (lastName_some_mem hs)
    split at hq2
    · rename_i htid; cases hq2; exact ⟨q.1, tid, hq, htid, hj⟩
    · cases hq2
  · cases h

theorem localNamesOut_sound (nif : Nat) (pfs : List ParsedFunc) (fs : List OutFunc) (funcMap : List (Nat × Nat))
    (l : List (Nat × List (Nat × String)))
    (q : Nat × List (Nat × String)) (hq : q ∈ localNamesOut nif pfs fs funcMap l) (r : Nat × String) (hr : r ∈ q.2) :
    ∃ (f : OutFunc) (pf : ParsedFunc) (li lid : Nat) (ty : String),
      f ∈ fs ∧ pfs[f.id - nif]? = some pf ∧ pf.localTys[li]? = some (lid, ty) ∧
      (li, r.2) ∈ (l.filter (·.1 = f.id)).flatMap (·.2) ∧
      assoc f.localMap lid = some r.1 ∧ assoc funcMap f.id = some q.1 := by
  simp only [localNamesOut, mem_sortBy, List.mem_filterMap] at hq
  obtain ⟨f, hf, hq⟩ := hq
  split at hq
  · cases hq
  · rename_i pf hpf
    obtain ⟨-, hq⟩ := Option.ite_none_left_eq_some.1 hq
    obtain ⟨j, hj, rfl⟩ := Option.map_eq_some_iff.1 hq
    simp only [sortNames, mem_sortBy, List.mem_filterMap] at hr
    obtain ⟨li, _, hr⟩ := hr
    split at hr
    · rename_i lid ty s hlt hs
      obtain ⟨-, hr⟩ := Option.ite_none_right_eq_some.1 hr
      obtain ⟨slot, hslot, rfl⟩ := Option.map_eq_some_iff.1 hr
      exact ⟨f, pf, li, lid, ty, hf, hpf, hlt, lastName_some_mem hs, hslot, hj⟩
    · cases hr

end Walrus
