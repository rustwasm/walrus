import Walrus.Proofs.ArenaSet

/-!
# C17 — identifiers are stable, never reused, and deletion is isolated

Model: `Walrus/Arena.lean` (TombstoneArena, ArenaSet), specification `ASpec` = a counter and the list
of live `(id, item)` pairs in creation order.  All statements quantify over *every* operation
history (`List (AOp α)`), every item type, every `on_delete` behaviour.  `step_get`, `step_nextId`
and `run_get` say what one operation, and a whole history, do to the meaning of an identifier; the
stability statements are read off them.
-/

namespace Walrus
namespace C17

variable {α : Type} [DecidableEq α]

/-- **Refinement (plain arenas).** Every history on a `TombstoneArena`, starting from the empty
    arena, gives exactly the answers of the specification, and the final state abstracts to the
    specification's final state. -/
theorem arena_refines_spec (od : α → α) (ops : List (AOp α)) :
    ((Arena.run od Arena.empty ops).1.abs, (Arena.run od Arena.empty ops).2)
      = ASpec.run (ASpec.empty : ASpec α) ops :=
  (Arena.run_refines od ops Arena.inv_empty).1

/-- **Refinement (de-duplicating set, `ModuleTypes`).** -/
theorem set_refines_spec (od : α → α) (ops : List (AOp α)) :
    ((ArenaSet.run od ArenaSet.empty ops).1.abs, (ArenaSet.run od ArenaSet.empty ops).2)
      = ASpec.runSet (ASpec.empty : ASpec α) ops :=
  (ArenaSet.run_refines od ops ArenaSet.inv_empty).1

/-- every reachable arena satisfies the representation invariant -/
theorem reachable_inv (od : α → α) (ops : List (AOp α)) : (Arena.run od Arena.empty ops).1.Inv :=
  (Arena.run_refines od ops Arena.inv_empty).2

theorem reachable_set_inv (od : α → α) (ops : List (AOp α)) :
    (ArenaSet.run od ArenaSet.empty ops).1.Inv :=
  (ArenaSet.run_refines od ops ArenaSet.inv_empty).2

/-- one step changes what an identifier denotes only by deleting exactly that identifier or by
    allocating exactly the identifier `next_id` -/
theorem step_get (od : α → α) {a : Arena α} (h : a.Inv) (op : AOp α) (i : Nat) :
    (Arena.step od a op).1.get? i =
      match op with
      | .delete j => if j = i then none else a.get? i
      | .alloc v => if i = a.nextId then some v else a.get? i
      | _ => a.get? i := by
  cases op with
  | alloc v =>
    have hnew : a.get? a.items.length = none := by simp [Arena.get?]
    simp only [Arena.step, ← Arena.find?_iter, Arena.iter_alloc h v, ASpec.find?_append, ASpec.find?, Arena.nextId]
    by_cases hi : i = a.items.length
    · subst hi; simp [Arena.find?_iter, hnew]
    · simp only [hi, Ne.symm hi, if_false]
      cases ASpec.find? a.iter i <;> rfl
  | delete j =>
    cases hd : a.delete od j with
    | none =>
      -- a failed `delete` changes nothing, and `j` denoted nothing
      simp only [Arena.step, hd]
      split
      · subst_vars; exact (Arena.delete_eq_none_iff od a _).1 hd
      · rfl
    | some a' =>
      obtain ⟨-, -, hlive⟩ := Arena.of_delete_eq_some hd
      simp only [Arena.step, hd, ← Arena.find?_iter, hlive, find?_filter (fun k => !(k == j))]
      by_cases hj : j = i
      · simp [hj]
      · simp [hj, Ne.symm hj]
  | _ => rfl

/-- `next_id` never decreases, and grows by exactly one on `alloc` -/
theorem step_nextId (od : α → α) (a : Arena α) (op : AOp α) :
    (Arena.step od a op).1.nextId =
      match op with
      | .alloc _ => a.nextId + 1
      | _ => a.nextId := by
  cases op with
  | alloc v => simp [Arena.step, Arena.alloc, Arena.nextId]
  | delete j =>
    cases hd : a.delete od j with
    | none => simp [Arena.step, hd]
    | some a' => simp [Arena.step, hd, Arena.nextId, (Arena.of_delete_eq_some hd).1]
  | _ => rfl

/-- `alloc` returns `next_id`, which denotes nothing beforehand: identifiers are never recycled. -/
theorem alloc_returns_fresh {a : Arena α} (h : a.Inv) (v : α) :
    (a.alloc v).2 = a.nextId ∧ a.get? a.nextId = none ∧ (a.alloc v).1.get? a.nextId = some v := by
  refine ⟨rfl, by simp [Arena.get?, Arena.nextId], ?_⟩
  have := step_get (fun x => x) h (.alloc v) a.nextId
  simpa [Arena.step] using this

/-- Across any history, an identifier that has been handed out changes its meaning only by being deleted. -/
theorem run_get (od : α → α) (ops : List (AOp α)) {a : Arena α} (h : a.Inv) (i : Nat) (hi : i < a.nextId) :
    (Arena.run od a ops).1.get? i = a.get? i ∨
    ((Arena.run od a ops).1.get? i = none ∧ AOp.delete i ∈ ops) := by
  induction ops generalizing a with
  | nil => exact .inl rfl
  | cons op ops ih =>
    simp only [Arena.run]
    have hi' : i < (Arena.step od a op).1.nextId := by rw [step_nextId]; split <;> omega
    rcases ih (Arena.step_refines od h op).2 hi' with e | ⟨e, hm⟩
    · rw [e, step_get od h op i]
      split
      · split
        · subst_vars; exact .inr ⟨rfl, List.mem_cons_self⟩
        · exact .inl rfl
      · exact .inl (if_neg (Nat.ne_of_lt hi))
      · exact .inl rfl
    · exact .inr ⟨e, List.mem_cons_of_mem _ hm⟩

/-- **Stability.** An identifier keeps denoting its item across any history that does not delete it. -/
theorem id_stable (od : α → α) (ops : List (AOp α)) {a : Arena α} (h : a.Inv) (i : Nat) (v : α)
    (hv : a.get? i = some v)
    (hno : ∀ j, AOp.delete j ∈ ops → j ≠ i) :
    (Arena.run od a ops).1.get? i = some v := by
  rcases run_get od ops h i (Arena.lt_nextId_of_get? hv) with e | ⟨-, hm⟩
  · exact e.trans hv
  · exact absurd rfl (hno i hm)

/-- **Deletion is final.** Once an identifier below `next_id` denotes nothing (it was deleted), no
    later history makes it denote anything again. -/
theorem dead_forever (od : α → α) (ops : List (AOp α)) {a : Arena α} (h : a.Inv) (i : Nat)
    (hi : i < a.nextId) (hd : a.get? i = none) :
    (Arena.run od a ops).1.get? i = none := by
  rcases run_get od ops h i hi with e | ⟨e, -⟩
  · exact e.trans hd
  · exact e

/-- a successful `delete i` makes `i` absent and changes no other identifier -/
theorem delete_isolated (od : α → α) {a : Arena α} (h : a.Inv) (i j : Nat) :
    (Arena.step od a (.delete i)).1.get? j = if i = j then none else a.get? j :=
  step_get od h (.delete i) j

/-- **Iteration** yields exactly the live items, in creation (= identifier) order. -/
theorem iter_exact (a : Arena α) :
    KeysFrom 0 a.iter ∧ ∀ i v, (i, v) ∈ a.iter ↔ a.get? i = some v :=
  ⟨a.keysFrom_iter, Arena.mem_iter a⟩

/-- `len` is the number of live items -/
theorem len_exact {a : Arena α} (h : a.Inv) : a.len = a.iter.length := Arena.len_abs h

/-- **De-duplication.** Adding a value that is already present returns the existing identifier and
    changes nothing; adding a new value returns the fresh identifier `next_id`. -/
theorem set_insert_existing {s : ArenaSet α} (h : s.Inv) (i : Nat) (v : α)
    (hm : (i, v) ∈ s.iter) : s.insert v = (s, i) := by
  have := (h.index v i).2 hm
  simp [ArenaSet.insert, this]

theorem set_insert_fresh {s : ArenaSet α} (h : s.Inv) (v : α)
    (hm : ∀ i, (i, v) ∉ s.iter) : (s.insert v).2 = s.arena.nextId := by
  have hl := ArenaSet.lookup_eq_findVal h v
  have := findVal_none.2 hm
  simp only [ArenaSet.iter] at this
  rw [this] at hl
  simp [ArenaSet.insert, hl, Arena.alloc, Arena.nextId]

/-- after removing a type, adding the same signature again yields a *fresh* identifier (the dead
    one is not resurrected) -/
theorem set_remove_then_insert_fresh (od : α → α) {s s' : ArenaSet α} (h : s.Inv)
    (i : Nat) (v : α) (hm : (i, v) ∈ s.iter) (hr : s.remove od i = some s') :
    (s'.insert v).2 = s'.arena.nextId ∧ (s'.insert v).2 ≠ i := by
  have hg : s.arena.get? i = some v := (Arena.mem_iter _ i v).1 hm
  have hlt : i < s.arena.items.length := Arena.lt_nextId_of_get? hg
  -- what `remove` did to the arena: same `next_id`, and `i` filtered out of the live items
  obtain ⟨-, -, hd, -⟩ := ArenaSet.of_remove_eq_some hr
  obtain ⟨hl, -, hlive⟩ := Arena.of_delete_eq_some hd
  -- `v` was live under `i` only, so it is live nowhere now
  have hnone : ∀ j, (j, v) ∉ s'.iter := by
    intro j hj
    simp only [ArenaSet.iter, hlive, List.mem_filter] at hj
    obtain rfl : j = i := Option.some.inj (((h.index v j).2 hj.1).symm.trans ((h.index v i).2 hm))
    simp at hj
  have hfresh := set_insert_fresh ((ArenaSet.remove_refines od h i).2 s' hr) v hnone
  refine ⟨hfresh, ?_⟩
  rw [hfresh, Arena.nextId, hl]
  omega

-- non-vacuity: concrete reachable states meeting the hypotheses

example : (Arena.run id Arena.empty [AOp.alloc 7, .alloc 8, .delete 0, .alloc 9, .get 0, .get 2, .iter, .len]).2
    = [.id 0, .id 1, .ok, .id 2, .val none, .val (some 9), .items [(1, 8), (2, 9)], .nat 2] := by decide +kernel

example : (ArenaSet.run id ArenaSet.empty [AOp.alloc 7, .alloc 7, .delete 0, .alloc 7, .delete 0, .iter]).2
    = [.id 0, .id 0, .ok, .id 1, .panic, .items [(1, 7)]] := by decide +kernel

end C17
end Walrus
