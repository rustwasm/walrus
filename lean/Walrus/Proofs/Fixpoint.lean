import Walrus.Rename
import Walrus.Proofs.FuncSigs

/-! Components of the round-trip fixpoint (C08): what the round trip does once, it does not do again. -/
namespace Walrus

open Walrus.Sem in
mutual
theorem elide_idem_I : (i : SI) → i.elide.elide = i.elide
  | .op o => by simp [SI.elide]
  | .block bt b => by simp [SI.elide, elide_idem_L b]
  | .loop bt b => by simp [SI.elide, elide_idem_L b]
  | .ite bt t e => by simp [SI.elide, elide_idem_L t, elide_idem_L e]
theorem elide_idem_L : (l : SL) → l.elide.elide = l.elide
  | .nil => by simp [SL.elide]
  | .cons (.op o) t => by
      simp only [SL.elide]
      split
      · exact elide_idem_L t
      · split
        · rename_i hn he
          simp [SL.elide, hn, he]
        · rename_i hn he
          simp [SL.elide, hn, he, elide_idem_L t]
  | .cons (.block bt b) t => by simp [SL.elide, SI.elide, elide_idem_L b, elide_idem_L t]
  | .cons (.loop bt b) t => by simp [SL.elide, SI.elide, elide_idem_L b, elide_idem_L t]
  | .cons (.ite bt a e) t => by simp [SL.elide, SI.elide, elide_idem_L a, elide_idem_L e, elide_idem_L t]
end

theorem distinctSigs_idem (l : List Sig) : distinctSigs (distinctSigs l) = distinctSigs l :=
  foldl_distinct_of_nodup (distinctSigs l) [] (by simpa using distinctSigs_nodup l)

def SortedBy {α : Type} (le : α → α → Bool) : List α → Prop
  | [] => True
  | [_] => True
  | a :: b :: r => le a b = true ∧ SortedBy le (b :: r)

theorem sortBy_of_sorted {α : Type} (le : α → α → Bool) : ∀ (l : List α), SortedBy le l → sortBy le l = l
  | [], _ => rfl
  | [a], _ => by simp [sortBy, insertBy]
  | a :: b :: r, h => by
    have ih := sortBy_of_sorted le (b :: r) h.2
    simp only [sortBy, List.foldr_cons] at ih ⊢
    rw [ih]
    simp [insertBy, h.1]

theorem insertBy_sorted {α : Type} (le : α → α → Bool) (total : ∀ a b, le a b = false → le b a = true) (x : α) :
    ∀ (l : List α), SortedBy le l → SortedBy le (insertBy le x l)
  | [], _ => by simp [insertBy, SortedBy]
  | [a], _ => by
    simp only [insertBy]
    split
    · rename_i h; exact ⟨h, trivial⟩
    · rename_i h
      exact ⟨total x a (by simpa using h), trivial⟩
  | a :: b :: r, h => by
    simp only [insertBy]
    split
    · rename_i hxa; exact ⟨hxa, h⟩
    · rename_i hxa
      have hax := total x a (by simpa using hxa)
      have ih := insertBy_sorted le total x (b :: r) h.2
      simp only [insertBy] at ih ⊢
      split
      · rename_i hxb
        simp only [hxb, if_true] at ih
        exact ⟨hax, ih⟩
      · rename_i hxb
        simp only [hxb, if_false, Bool.false_eq_true] at ih
        exact ⟨h.1, ih⟩

theorem sortBy_sorted {α : Type} (le : α → α → Bool) (total : ∀ a b, le a b = false → le b a = true) :
    ∀ (l : List α), SortedBy le (sortBy le l)
  | [] => trivial
  | a :: r => by
    simp only [sortBy, List.foldr_cons]
    exact insertBy_sorted le total a _ (sortBy_sorted le total r)

theorem sortBy_idem {α : Type} (le : α → α → Bool) (total : ∀ a b, le a b = false → le b a = true) (l : List α) :
    sortBy le (sortBy le l) = sortBy le l :=
  sortBy_of_sorted le _ (sortBy_sorted le total l)

/-- the comparison that orders emitted functions (size descending, then id), on pairs `(id, size)`, is total -/
theorem funcOrder_total (a b : Nat × Nat) :
    (fun (a b : Nat × Nat) => decide (a.2 > b.2) || (a.2 == b.2 && decide (a.1 ≤ b.1))) a b = false →
    (fun (a b : Nat × Nat) => decide (a.2 > b.2) || (a.2 == b.2 && decide (a.1 ≤ b.1))) b a = true := by
  simp only [Bool.or_eq_false_iff, decide_eq_false_iff_not, Bool.and_eq_false_iff, Bool.or_eq_true,
    decide_eq_true_eq, Bool.and_eq_true, beq_iff_eq, beq_eq_false_iff_ne]
  intro ⟨h1, h2⟩
  rcases Nat.lt_or_ge a.2 b.2 with h | h
  · exact Or.inl h
  · have : a.2 = b.2 := Nat.le_antisymm (Nat.le_of_not_lt h1) h
    rcases h2 with h2 | h2
    · exact absurd this h2
    · exact Or.inr ⟨this.symm, Nat.le_of_lt (Nat.lt_of_not_le h2)⟩

theorem takeWhile_idem {α : Type} (p : α → Bool) (l : List α) : (l.takeWhile p).takeWhile p = l.takeWhile p := by
  induction l with
  | nil => rfl
  | cons a t ih =>
    by_cases h : p a
    · simp [h, ih]
    · simp [h]

end Walrus
